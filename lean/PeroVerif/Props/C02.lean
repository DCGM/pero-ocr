/-
C02 — the CTC prefix beam search (`CTCPrefixLogRawNumpyDecoder`) against the true path sums: distinct
transcripts, never over-counts, exact and complete when unpruned, joining = grouping, each frame a
top-k of the positive candidates, the beam never dies, unnormalised input rejected.
The per-frame facts are in Lemmas/PrefixBeam.lean, the path-sum recursions in Lemmas/CtcMass.lean; here
they are carried over all frames.
-/
import Mathlib.Algebra.Order.Ring.Defs
import PeroVerif.Model.PrefixBeam
import PeroVerif.Spec.CtcMass
import PeroVerif.Lemmas.Ctc
import PeroVerif.Lemmas.CtcMass
import PeroVerif.Lemmas.PrefixBeam

set_option linter.unusedSectionVars false

namespace C02
open Ctc PB

variable {R : Type} [CommSemiring R] [LinearOrder R] [IsStrictOrderedRing R]
variable {H : Type}

/-- An admissible beam cut (covers `np.argpartition`'s arbitrary tie-breaking): a sub-multiset of the
candidates of the requested size such that nothing left out is strictly better than something kept. -/
def IsCut (key : Entry H R → R) (choose : ℕ → List (Entry H R) → List (Entry H R)) : Prop :=
  ∀ k l, (choose k l).Subperm l ∧ (choose k l).length = min k l.length ∧
    ∀ a ∈ choose k l, ∀ b ∈ l, b ∉ choose k l → ¬ key a < key b

/-- Well-formed input: `C ≥ 1` columns (blank = `C-1`) in every row, non-negative entries. -/
def WFM (C : ℕ) (M : List (List R)) : Prop :=
  0 < C ∧ ∀ row ∈ M, row.length = C ∧ ∀ x ∈ row, 0 ≤ x

/-- The beam after the frames of `M` (no normalisation check). -/
def beamOf (lm : LM H R) (sel : R → Bool) (k : ℕ) (choose : ℕ → List (Entry H R) → List (Entry H R))
    (h0 : H) (M : List (List R)) : List (Entry H R) :=
  M.foldl (step (Ops.of R) lm sel k choose) (init (Ops.of R) h0)

/-- The executable cut used by the driver is admissible. -/
theorem topK_isCut (key : Entry H R → R) : IsCut key (topK (Ops.of R) key) := by
  intro k l
  unfold topK
  generalize hle : (fun a b : Entry H R => !((Ops.of R).lt (key a) (key b))) = le
  have hle' : ∀ a b, le a b = true ↔ ¬ key a < key b := by
    intro a b; subst hle; simp
  refine ⟨(List.take_sublist _ _).subperm.trans (List.mergeSort_perm l le).subperm,
    by simp [List.length_take], ?_⟩
  intro a ha b hb hnb
  -- the sorted list is `take k ++ drop k`, and `b` is in the second part
  have hsorted : (l.mergeSort le).Pairwise (fun a b => le a b) := by
    apply List.pairwise_mergeSort
    · intro x y z hxy hyz
      rw [hle'] at *
      exact fun h => hxy (lt_of_lt_of_le h (not_lt.mp hyz))
    · intro x y
      rw [Bool.or_eq_true, hle', hle']
      rcases lt_or_ge (key x) (key y) with h | h
      · exact Or.inr (not_lt.mpr h.le)
      · exact Or.inl (not_lt.mpr h)
  rw [← List.take_append_drop k (l.mergeSort le)] at hsorted
  have hb' : b ∈ (l.mergeSort le).drop k := by
    have : b ∈ l.mergeSort le := List.mem_mergeSort.mpr hb
    rw [← List.take_append_drop k (l.mergeSort le), List.mem_append] at this
    exact this.resolve_left hnb
  exact (hle' a b).mp ((List.pairwise_append.mp hsorted).2.2 a ha b hb')

/-- The beam invariant needed for joining to be grouping holds along every run (stated as `BeamOK`
below). -/
private theorem beamOf_OK (lm : LM H R) (sel : R → Bool) (k : ℕ) (key : Entry H R → R)
    (choose : ℕ → List (Entry H R) → List (Entry H R)) (hc : IsCut key choose) (h0 : H)
    (M : List (List R)) : PB.OK (beamOf lm sel k choose h0 M) :=
  List.foldlRecOn (motive := PB.OK) M _ (PB.init_OK h0) fun _ hb row _ =>
    PB.step_OK lm sel k (fun k l => (hc k l).1) hb row

/-- Pairwise distinct transcripts, for every matrix, beam width, selector and admissible cut. -/
theorem beam_nodup (lm : LM H R) (sel : R → Bool) (k : ℕ) (key : Entry H R → R)
    (choose : ℕ → List (Entry H R) → List (Entry H R)) (hc : IsCut key choose) (h0 : H)
    (M : List (List R)) :
    ((beamOf lm sel k choose h0 M).map (·.pre)).Nodup :=
  (beamOf_OK lm sel k key choose hc h0 M).1

theorem beamOf_snoc (lm : LM H R) (sel : R → Bool) (k : ℕ)
    (choose : ℕ → List (Entry H R) → List (Entry H R)) (h0 : H) (M : List (List R)) (r : List R) :
    beamOf lm sel k choose h0 (M ++ [r]) =
      step (Ops.of R) lm sel k choose (beamOf lm sel k choose h0 M) r :=
  List.foldl_concat ..

theorem WFM.init {C : ℕ} {M : List (List R)} {r : List R} (h : WFM C (M ++ [r])) : WFM C M :=
  ⟨h.1, fun row hrow => h.2 row (List.mem_append_left _ hrow)⟩

theorem WFM.last {C : ℕ} {M : List (List R)} {r : List R} (h : WFM C (M ++ [r])) :
    r.length = C ∧ ∀ x ∈ r, 0 ≤ x := h.2 r (by simp)

theorem WFM.rec {C : ℕ} {M : List (List R)} {r : List R} (h : WFM C (M ++ [r])) :
    PB.Rec r (massB C (C - 1) M) (massNB C (C - 1) M) (massB C (C - 1) (M ++ [r]))
      (massNB C (C - 1) (M ++ [r])) :=
  PB.rec_mass h.1 (fun row hrow => (h.init.2 row hrow).2) h.last.1

/-- Never over-counts: blank-ending / non-blank-ending partial scores are bounded by the corresponding
true path sums, hence the visual score never exceeds the true CTC probability. -/
theorem beam_le_mass (C : ℕ) (lm : LM H R) (sel : R → Bool) (k : ℕ) (key : Entry H R → R)
    (choose : ℕ → List (Entry H R) → List (Entry H R)) (hc : IsCut key choose) (h0 : H)
    (M : List (List R)) (hM : WFM C M) :
    ∀ e ∈ beamOf lm sel k choose h0 M,
      0 ≤ e.pb ∧ 0 ≤ e.pnb ∧
      e.pb ≤ massB C (C - 1) M e.pre ∧ e.pnb ≤ massNB C (C - 1) M e.pre ∧
      score (Ops.of R) e ≤ mass C (C - 1) M e.pre := by
  suffices h : ∀ e ∈ beamOf lm sel k choose h0 M, PB.Bd (massB C (C - 1) M) (massNB C (C - 1) M) e from
    fun e he => ⟨(h e he).1, (h e he).2.1, (h e he).2.2.1, (h e he).2.2.2,
      mass_eq_add C (C - 1) M e.pre ▸ add_le_add (h e he).2.2.1 (h e he).2.2.2⟩
  induction M using ListAux.snoc_induction with
  | nil =>
    intro e he
    rw [beamOf, List.foldl_nil, init, List.mem_singleton] at he
    subst he
    exact ⟨zero_le_one, le_refl _, (massB_nil_nil _ _).ge, (massNB_nil_left _ _ _).ge⟩
  | snoc M r ih =>
    rw [beamOf_snoc]
    exact PB.step_bd hM.rec hM.last.2 lm k (fun k l => (hc k l).1)
      (beamOf_OK lm sel k key choose hc h0 M) sel (ih hM.init)

/-- Neither the beam nor the pre-selection prunes anything along the run on `M`. -/
def NoPrune (lm : LM H R) (sel : R → Bool) (k : ℕ) (choose : ℕ → List (Entry H R) → List (Entry H R))
    (h0 : H) (M : List (List R)) : Prop :=
  (∀ p : R, 0 < p → sel p = true) ∧
  ∀ M' row rest, M = M' ++ row :: rest →
    ((candidates (Ops.of R) lm (selected (Ops.of R) sel row) (beamOf lm sel k choose h0 M') row).filter
      fun c => (Ops.of R).lt 0 (score (Ops.of R) c)).length ≤ k

/-- Exact and complete when unpruned. -/
theorem unpruned_exact (C : ℕ) (lm : LM H R) (sel : R → Bool) (k : ℕ) (key : Entry H R → R)
    (choose : ℕ → List (Entry H R) → List (Entry H R)) (hc : IsCut key choose) (h0 : H)
    (M : List (List R)) (hM : WFM C M) (hn : NoPrune lm sel k choose h0 M) :
    (∀ e ∈ beamOf lm sel k choose h0 M,
        e.pb = massB C (C - 1) M e.pre ∧ e.pnb = massNB C (C - 1) M e.pre ∧
        score (Ops.of R) e = mass C (C - 1) M e.pre) ∧
    (∀ ℓ : List ℕ, 0 < mass C (C - 1) M ℓ → ∃ e ∈ beamOf lm sel k choose h0 M, e.pre = ℓ) := by
  suffices h : (∀ e ∈ beamOf lm sel k choose h0 M,
        e.pb = massB C (C - 1) M e.pre ∧ e.pnb = massNB C (C - 1) M e.pre) ∧
      (∀ ℓ, 0 < massB C (C - 1) M ℓ + massNB C (C - 1) M ℓ →
        ∃ e ∈ beamOf lm sel k choose h0 M, e.pre = ℓ) from
    ⟨fun e he => ⟨(h.1 e he).1, (h.1 e he).2, by
        rw [mass_eq_add, ← (h.1 e he).1, ← (h.1 e he).2]; rfl⟩,
      fun ℓ hℓ => h.2 ℓ (mass_eq_add C (C - 1) M ℓ ▸ hℓ)⟩
  obtain ⟨hsel, hnp⟩ := hn
  induction M using ListAux.snoc_induction with
  | nil =>
    refine ⟨fun e he => ?_, fun ℓ hℓ => ?_⟩
    · rw [beamOf, List.foldl_nil, init, List.mem_singleton] at he
      subst he
      exact ⟨(massB_nil_nil _ _).symm, (massNB_nil_left _ _ _).symm⟩
    · cases ℓ with
      | nil => exact ⟨_, List.mem_singleton.mpr rfl, rfl⟩
      | cons a l =>
        rw [massB_nil_cons, massNB_nil_left, add_zero] at hℓ
        exact absurd hℓ (lt_irrefl _)
  | snoc M r ih =>
    rw [beamOf_snoc]
    have ih' := ih hM.init fun M' row rest h => hnp M' row (rest ++ [r]) (by rw [h]; simp)
    exact PB.step_exact hM.rec hM.last.2 lm k (fun k l => (hc k l).1)
      (beamOf_OK lm sel k key choose hc h0 M) (fun k l => (hc k l).2.1) hsel ih'.1 ih'.2
      (hnp M r [] rfl)

/-- Raw (ungrouped) contributions of one frame of textbook prefix beam search: every beam entry
contributes its stay and one extension per selected symbol; no joining. -/
def rawContrib (sel : R → Bool) (beam : List (Entry H R)) (row : List R) : List (List ℕ × R × R) :=
  let o := Ops.of R
  let S := selected o sel row
  beam.flatMap fun e =>
    (S.map fun c => (e.pre ++ [c], (0 : R), ext o row e c)) ++
    [(e.pre, stayPb o row e, e.pnb * (if S.contains e.last then rowAt o row e.last else 0))]

/-- Beam invariant needed for joining to be grouping: distinct prefixes, `last` is the last symbol. -/
def BeamOK (beam : List (Entry H R)) : Prop :=
  (beam.map (·.pre)).Nodup ∧ ∀ e ∈ beam, e.pre ≠ [] → e.pre.getLast? = some e.last

theorem beamOf_ok (lm : LM H R) (sel : R → Bool) (k : ℕ) (key : Entry H R → R)
    (choose : ℕ → List (Entry H R) → List (Entry H R)) (hc : IsCut key choose) (h0 : H)
    (M : List (List R)) : BeamOK (beamOf lm sel k choose h0 M) :=
  beamOf_OK lm sel k key choose hc h0 M

theorem rawContrib_sum (sel : R → Bool) (beam : List (Entry H R)) (row : List R) (ℓ : List ℕ)
    (g : List ℕ × R × R → R) :
    (((rawContrib sel beam row).filter fun x => x.1 = ℓ).map g).sum =
      PB.grp (selected (Ops.of R) sel row) beam ℓ
        (fun e c => g (e.pre ++ [c], (0 : R), ext (Ops.of R) row e c))
        (fun e => g (e.pre, stayPb (Ops.of R) row e, e.pnb *
          (if (selected (Ops.of R) sel row).contains e.last then rowAt (Ops.of R) row e.last else 0))) :=
  PB.sum_frame _ beam (fun e c => (e.pre ++ [c], (0 : R), ext (Ops.of R) row e c)) _ (·.1)
    (fun _ _ => rfl) (fun _ => rfl) ℓ g

set_option linter.unusedVariables false in
/-- Joining implements grouping: for every prefix, the candidates carry exactly the summed raw
contributions for that prefix, and candidates with a positive score have pairwise distinct prefixes —
so one step is "group all contributions by prefix in a map, keep a top-k of the positive ones". -/
theorem joining_is_grouping (lm : LM H R) (sel : R → Bool) (beam : List (Entry H R)) (row : List R)
    (hb : BeamOK beam) (hnn : ∀ e ∈ beam, 0 ≤ e.pb ∧ 0 ≤ e.pnb) (hrow : ∀ x ∈ row, 0 ≤ x)
    (hS : (selected (Ops.of R) sel row) ≠ []) :
    let o := Ops.of R
    let cands := candidates o lm (selected o sel row) beam row
    (∀ ℓ : List ℕ,
      ((cands.filter fun c => c.pre = ℓ).map (·.pb)).sum =
        (((rawContrib sel beam row).filter fun x => x.1 = ℓ).map (·.2.1)).sum ∧
      ((cands.filter fun c => c.pre = ℓ).map (·.pnb)).sum =
        (((rawContrib sel beam row).filter fun x => x.1 = ℓ).map (·.2.2)).sum) ∧
    (((cands.filter fun c => o.lt 0 (score o c)).map (·.pre)).Nodup) := by
  intro o cands
  refine ⟨fun ℓ => ?_, PB.pos_pre_nodup lm _ (PB.nodup_selected _ sel row) beam row hb⟩
  -- both sides, summed at `ℓ`, are grouped sums over the beam; they differ by the joining only
  rw [PB.cands_sum, PB.cands_sum, rawContrib_sum, rawContrib_sum]
  exact ⟨rfl, PB.join_pnb _ (PB.nodup_selected _ sel row) hb row ℓ⟩

/-- One frame keeps an admissible top-k of the positive candidates (or, if no symbol is selected,
just moves all mass to the blank-ending score). -/
theorem step_is_cut (lm : LM H R) (sel : R → Bool) (k : ℕ) (key : Entry H R → R)
    (choose : ℕ → List (Entry H R) → List (Entry H R)) (hc : IsCut key choose)
    (beam : List (Entry H R)) (row : List R) (hS : (selected (Ops.of R) sel row) ≠ []) :
    let o := Ops.of R
    let pos := (candidates o lm (selected o sel row) beam row).filter fun c => o.lt 0 (score o c)
    let out := step o lm sel k choose beam row
    out.Subperm pos ∧ out.length = min k pos.length ∧
      ∀ a ∈ out, ∀ b ∈ pos, b ∉ out → ¬ key a < key b := by
  intro o pos out
  have hout : out = choose (min k pos.length) pos := PB.step_eq_cut hS lm k choose beam
  obtain ⟨h1, h2, h3⟩ := hc (min k pos.length) pos
  rw [hout]
  exact ⟨h1, h2.trans (by omega), h3⟩

/-- A row keeps the search alive if the blank or some selected symbol has positive probability
(true for every row-normalised row with fewer than e^10 symbols under the default selector). -/
def RowAlive (sel : R → Bool) (row : List R) : Prop :=
  0 < blankP (Ops.of R) row ∨ ∃ c ∈ selected (Ops.of R) sel row, 0 < rowAt (Ops.of R) row c

/-- The beam never dies: it is never empty and every entry has a positive score, so the cut size
`min k #positive` is at least 1 and decoding never fails. -/
theorem beam_alive (C : ℕ) (lm : LM H R) (sel : R → Bool) (k : ℕ) (hk : 1 ≤ k) (key : Entry H R → R)
    (choose : ℕ → List (Entry H R) → List (Entry H R)) (hc : IsCut key choose) (h0 : H)
    (M : List (List R)) (hM : WFM C M) (ha : ∀ row ∈ M, RowAlive sel row) :
    beamOf lm sel k choose h0 M ≠ [] ∧
    ∀ e ∈ beamOf lm sel k choose h0 M, 0 < score (Ops.of R) e := by
  induction M using ListAux.snoc_induction with
  | nil => exact ⟨by simp [beamOf, init], by simp [beamOf, init, score]⟩
  | snoc M r ih =>
    rw [beamOf_snoc]
    have ih' := ih hM.init fun row hrow => ha row (List.mem_append_left _ hrow)
    have hbd := beam_le_mass C lm sel k key choose hc h0 M hM.init
    exact PB.step_alive lm sel k (fun k l => (hc k l).1) (beamOf_OK lm sel k key choose hc h0 M)
      (fun e he => ⟨(hbd e he).1, (hbd e he).2.1⟩)
      (fun e he hp => le_antisymm
        (by have := (hbd e he).2.2.2.1; rwa [hp, massNB_nil] at this) (hbd e he).2.1)
      hM.last.2 hk (fun k l => (hc k l).2.1) (ha r (by simp)) ih'.1 ih'.2

/-- Unnormalised input is rejected rather than decoded. -/
theorem reject_unnormalised (lm : LM H R) (sel : R → Bool) (k : ℕ)
    (choose : ℕ → List (Entry H R) → List (Entry H R)) (tol : R) (h0 : H) (modelEos : Bool)
    (M : List (List R)) (row : List R) (hrow : row ∈ M)
    (hdev : 1 + tol < row.sum ∨ row.sum + tol < 1) :
    ∃ e, decode (Ops.of R) lm sel k choose tol h0 modelEos M = .error e :=
  PB.reject_unnormalised lm sel k choose tol h0 modelEos M row hrow hdev

/-- ... and normalised input is decoded: the result is the finished beam. -/
theorem accept_normalised (lm : LM H R) (sel : R → Bool) (k : ℕ)
    (choose : ℕ → List (Entry H R) → List (Entry H R)) (tol : R) (h0 : H) (modelEos : Bool)
    (M : List (List R)) (hn : ∀ row ∈ M, ¬ (1 + tol < row.sum) ∧ ¬ (row.sum + tol < 1)) :
    decode (Ops.of R) lm sel k choose tol h0 modelEos M =
      .ok (finish (Ops.of R) lm modelEos (beamOf lm sel k choose h0 M)) := by
  have h : ¬ unnormalised (Ops.of R) tol M = true := by
    rw [PB.unnormalised_iff]
    rintro ⟨row, hrow, h | h⟩
    · exact (hn row hrow).1 h
    · exact (hn row hrow).2 h
  unfold decode decodeBeam
  rw [if_neg h]
  rfl

end C02
