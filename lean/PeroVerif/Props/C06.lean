/-
C06 — property theorems (statements fixed by the architect; do not weaken).
`Gen.Alto.sepIsSpace` is GENERATED from the source on every run; it may be evaluated ONLY in
`sep_is_space` (by `rfl`); lemmas that need it take it as a hypothesis.
Helper lemmas: PeroVerif/Lemmas/Arabic.lean and PeroVerif/Lemmas/AltoText.lean.
-/
import PeroVerif.Model.Arabic
import PeroVerif.Model.AltoText
import PeroVerif.Lemmas.Arabic
import PeroVerif.Lemmas.AltoText
import PeroVerif.Props.C05
import PeroVerif.Props.C16

namespace C06
open Py

/-! ### the Arabic logical/label order conversion -/

/-- only reorders characters: none added, dropped or changed — for every classification -/
theorem reverse_perm (isA isD : Nat → Bool) (s : List Nat) : (Ar.reverse isA isD s).Perm s := by
  rw [Ar.reverse_eq_spec]; exact Ar.spec_perm isA isD s

/-- applying it twice returns the original string — for every string mixing Arabic words, other
words, numbers, delimiters and blanks (incl. leading/trailing delimiters), provided no character is
both Arabic and a delimiter (true of the real tables; checked at run time) -/
theorem reverse_involutive (isA isD : Nat → Bool) (hdisj : ∀ c, ¬ (isA c = true ∧ isD c = true))
    (s : List Nat) : Ar.reverse isA isD (Ar.reverse isA isD s) = s := by
  have _ := hdisj  -- not needed: the machine tests `isA` first, so the classes are disjoint anyway
  rw [Ar.reverse_eq_spec, Ar.reverse_eq_spec]; exact Ar.spec_involutive isA isD s

/-! ### words of a line -/

/-- obligation on the generated flag: word spans are cut at the same white space as `str.split()` -/
theorem sep_is_space : Gen.Alto.sepIsSpace = true := rfl

/-- `str.split()` neither loses nor invents nor reorders non-blank characters, and its words are
non-empty and blank-free -/
theorem pySplit_spec (isSpace : Nat → Bool) (s : Str) :
    (Alto.pySplit isSpace s).flatten = s.filter (fun c => !isSpace c) ∧
    ∀ w ∈ Alto.pySplit isSpace s, w ≠ [] ∧ ∀ c ∈ w, isSpace c = false := by
  refine ⟨?_, ?_⟩
  · simpa [Alto.pySplit] using Alto.pySplitAux_flatten isSpace s []
  · exact Alto.pySplitAux_words isSpace s [] (by simp)

/-- as many word spans as words -/
theorem spans_length (isSpace : Nat → Bool) (s : Str) :
    (Alto.spans (Alto.spaceIdxs isSpace s)).length = (Alto.pySplit isSpace s).length := 
  Alto.spans_length sep_is_space isSpace s

/-- In BOTH branches (alignable or not) the export never raises and the String contents are exactly
the whitespace-separated words of the transcription, each through the order conversion. -/
theorem words_eq_split (isSpace : Nat → Bool) (conv : Str → Str) (aligned : Bool) (s : Str) :
    ∃ n, Alto.lineWords isSpace conv aligned s = .words ((Alto.pySplit isSpace s).map conv) n ∧
      (aligned = true → n = (Alto.pySplit isSpace s).length - 1) := 
  Alto.lineWords_eq sep_is_space isSpace conv aligned s

/-- a line is exported iff its transcription has a non-blank character -/
theorem exported_iff (isSpace : Nat → Bool) (s : Str) :
    Alto.exported isSpace (some s) = true ↔ Alto.pySplit isSpace s ≠ [] := by
  have h := Alto.pySplitAux_eq_nil isSpace s []
  simp only [true_and] at h
  simp only [Alto.exported, Alto.pySplit, ne_eq, h]
  cases List.all s isSpace <;> simp

/-! ### print space and margins -/

/-- a block lies inside an `H × W` page -/
def Inside (H W : Int) (b : Alto.Box) : Prop :=
  0 ≤ b.height ∧ 0 ≤ b.width ∧ 0 ≤ b.vpos ∧ 0 ≤ b.hpos ∧ b.vpos + b.height ≤ H ∧ b.hpos + b.width ≤ W

/-- `get_hwvh` is the bounding box of the polygon -/
theorem hwvh_bbox (poly : List (Int × Int)) (h : poly ≠ []) :
    let b := Alto.hwvh poly
    (∀ p ∈ poly, b.hpos ≤ p.1 ∧ p.1 ≤ b.hpos + b.width ∧ b.vpos ≤ p.2 ∧ p.2 ≤ b.vpos + b.height) ∧
    (∃ p ∈ poly, p.1 = b.hpos) ∧ (∃ p ∈ poly, p.1 = b.hpos + b.width) ∧
    (∃ p ∈ poly, p.2 = b.vpos) ∧ (∃ p ∈ poly, p.2 = b.vpos + b.height) := by
  have ⟨xM, xMb⟩ := Alto.maxL_map_spec (·.1) h
  have ⟨xm, xmb⟩ := Alto.minL_map_spec (·.1) h
  have ⟨yM, yMb⟩ := Alto.maxL_map_spec (·.2) h
  have ⟨ym, ymb⟩ := Alto.minL_map_spec (·.2) h
  simp only [Alto.hwvh, add_sub_cancel]
  exact ⟨fun p hp => ⟨xmb p hp, xMb p hp, ymb p hp, yMb p hp⟩, xm, xM, ym, yM⟩

/-- The print space is the bounding box of the text blocks: it contains every block and each of its
four sides touches some block. -/
theorem printspace_is_bbox (H W : Int) (blocks : List Alto.Box) (hne : blocks ≠ [])
    (hin : ∀ b ∈ blocks, Inside H W b) :
    let p := Alto.printSpace H W blocks
    (∀ b ∈ blocks, p.vpos ≤ b.vpos ∧ p.hpos ≤ b.hpos ∧ b.vpos + b.height ≤ p.vpos + p.height ∧
        b.hpos + b.width ≤ p.hpos + p.width) ∧
    (∃ b ∈ blocks, b.vpos = p.vpos) ∧ (∃ b ∈ blocks, b.hpos = p.hpos) ∧
    (∃ b ∈ blocks, b.vpos + b.height = p.vpos + p.height) ∧
    (∃ b ∈ blocks, b.hpos + b.width = p.hpos + p.width) := by
  obtain ⟨ev, eh, eb, er, hh, hw⟩ := Alto.printSpace_eq H W hne fun b hb =>
    have ⟨h1, h2, h3, h4, h5, h6⟩ := hin b hb
    ⟨Int.le_trans (Int.le_add_of_nonneg_right h1) h5, Int.le_trans (Int.le_add_of_nonneg_right h2) h6,
      Int.add_nonneg h3 h1, Int.add_nonneg h4 h2⟩
  have ⟨vm, vmb⟩ := Alto.minL_map_spec (·.vpos) hne
  have ⟨hm, hmb⟩ := Alto.minL_map_spec (·.hpos) hne
  have ⟨bM, bMb⟩ := Alto.maxL_map_spec (fun b => b.vpos + b.height) hne
  have ⟨rM, rMb⟩ := Alto.maxL_map_spec (fun b => b.hpos + b.width) hne
  simp only [hh, hw, add_sub_cancel, ev, eh, eb, er]
  exact ⟨fun b hb => ⟨vmb b hb, hmb b hb, bMb b hb, rMb b hb⟩, vm, hm, bM, rM⟩

/-- The four margins cover the rest of the page: together with the print space's column/row they
tile `H × W` (top above, bottom below, left and right full height). -/
theorem margins_cover (H W : Int) (blocks : List Alto.Box) (hne : blocks ≠ [])
    (hin : ∀ b ∈ blocks, Inside H W b) :
    let p := Alto.printSpace H W blocks
    Alto.margins H W p =
      [⟨p.vpos, W, 0, 0⟩, ⟨H, p.hpos, 0, 0⟩, ⟨H, W - (p.hpos + p.width), 0, p.hpos + p.width⟩,
       ⟨H - (p.vpos + p.height), W, p.vpos + p.height, 0⟩] ∧
    0 ≤ p.vpos ∧ 0 ≤ p.hpos ∧ 0 ≤ W - (p.hpos + p.width) ∧ 0 ≤ H - (p.vpos + p.height) := by
  obtain ⟨-, ⟨bv, hv, ev⟩, ⟨bh, hh, eh⟩, ⟨bb, hb, eb⟩, ⟨br, hr, er⟩⟩ :=
    printspace_is_bbox H W blocks hne hin
  exact ⟨rfl, ev ▸ (hin bv hv).2.2.1, eh ▸ (hin bh hh).2.2.2.1,
    Int.sub_nonneg_of_le (er ▸ (hin br hr).2.2.2.2.2), Int.sub_nonneg_of_le (eb ▸ (hin bb hb).2.2.2.2.1)⟩

/-! ### the aligned branch cannot fail in the confidence computation (C05 + C16 composed) -/

/-- Whenever `align_text` succeeds on a line, `get_line_confidence` with that alignment is defined on
any posterior matrix with the same number of frames, returns one value per character, all in [0, 1]: the
aligned branch of the ALTO export cannot raise there. -/
theorem alto_confidence_total {R : Type} [Field R] [LinearOrder R] [IsStrictOrderedRing R]
    (C : Nat) (hC : 2 ≤ C) (M : List (List FA.Cost)) (probs : List (List R)) (labels : List Nat) (blank : Nat)
    (ps : List (Option Nat)) (hp : C16.Probs C probs) (hlen : probs.length = M.length)
    (hlab : ∀ l ∈ labels, l < C) (h : FA.alignText M labels blank = .ok ps) :
    ∃ qs cs, ps = qs.map some ∧ Conf.getLineConfidence (C16.COps.of R) probs labels qs = some cs ∧
      cs.length = labels.length ∧ ∀ c ∈ cs, 0 ≤ c ∧ c ≤ 1 := by
  obtain ⟨qs, pos, hpos, hps, hql, hpw, hq⟩ := C05.positions_spec M labels blank ps h
  obtain ⟨p, hsp, rfl⟩ := FA.forceAlignPos_ok hpos
  have hpl : p.length = M.length := (FA.statePath_ok_spec hsp).2.2.2.1
  have hT : ∀ a ∈ qs, a < probs.length := by
    intro a ha
    obtain ⟨i, hi, rfl⟩ := List.getElem_of_mem ha
    have h1 := (hq i hi).1
    have h2 : qs[i] < (p.map FA.posOf).length := by
      by_contra hcon
      rw [List.getElem?_eq_none (by omega)] at h1
      cases h1
    rw [List.length_map] at h2
    omega
  have hdef : ∃ cs, Conf.getLineConfidence (C16.COps.of R) probs labels qs = some cs := by
    unfold Conf.getLineConfidence
    split
    · rename_i he
      exact Conf.transformer_definedL (fun row hr => (hp row hr).1) he hlab
    · exact C16.lineConfidence_defined C hC probs labels qs hp hql.symm hlab hpw hT
  obtain ⟨cs, hcs⟩ := hdef
  exact ⟨qs, cs, hps, hcs, C16.lineConfidence_range C probs labels qs cs hp hcs⟩

/-! ### re-import (`from_altoxml`): the String contents of a line are joined by single blanks -/

/-- Splitting the re-imported transcription returns exactly the exported words, for every list of non-empty, blank-free
words (what `words_eq_split` / `pySplit_spec` guarantee for the export; the order conversion only permutes characters). -/
theorem reimport_words (isSpace : Nat → Bool) (h32 : isSpace 32 = true) (ws : List Str)
    (hws : ∀ w ∈ ws, w ≠ [] ∧ ∀ c ∈ w, isSpace c = false) :
    Alto.pySplit isSpace (Alto.reimportLine ws) = ws :=
  Alto.pySplit_reimport isSpace h32 ws hws

/-- Export followed by re-import returns the same words for every transcription. -/
theorem reimport_roundtrip (isSpace : Nat → Bool) (h32 : isSpace 32 = true) (s : Str) :
    Alto.pySplit isSpace (Alto.reimportLine (Alto.pySplit isSpace s)) = Alto.pySplit isSpace s :=
  Alto.pySplit_reimport isSpace h32 _ (pySplit_spec isSpace s).2

/-- non-vacuity: "ab  c" (two blanks) exports the words ab, c and re-imports as "ab c" -/
example : Alto.reimportLine (Alto.pySplit (· == 32) [97, 98, 32, 32, 99]) = [97, 98, 32, 99] := by decide +kernel

end C06
