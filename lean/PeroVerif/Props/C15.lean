/-
C15 — property theorems (statements fixed by the architect; do not weaken).
`Gen.Merge.mergeText/mergeLogits` are GENERATED from the Python source on every run; the lemmas
`mergeText_eq` / `mergeLogits_eq` are the proof obligations that an edit of the source can break —
everything else should be derived from them (do not unfold Gen.Merge.* anywhere else).
Helper lemmas go to PeroVerif/Lemmas/Merge.lean.
-/
import PeroVerif.Model.Merge
import PeroVerif.Lemmas.Merge
import PeroVerif.Lemmas.Lev

namespace C15
open Merge
variable {α β : Type} [DecidableEq α]

/-- Obligation on the generated slice expression: keep all but ⌈o/2⌉ symbols on the left, drop ⌊o/2⌋
on the right. -/
theorem mergeText_eq (r p : List α) (o : Nat) (h : o ≤ r.length) :
    Gen.Merge.mergeText r p (o : Int) = r.take (r.length - (o + 1) / 2) ++ p.drop (o / 2) :=
  slice_cut r p o h

theorem mergeLogits_eq (r p : List α) (lr lp : List β) (o : Nat) (h : o ≤ lr.length) :
    Gen.Merge.mergeLogits r p lr lp (o : Int) = cut lr lp o :=
  slice_cut lr lp o h

/-- The detected overlap never exceeds either text. -/
theorem findBestOverlap_le (a b : List α) : findBestOverlap a b ≤ min a.length b.length :=
  (foldl_overlapStep_inv a b _).2.2.1

theorem overlap_le_left (a b : List α) : findBestOverlap a b ≤ a.length :=
  Nat.le_trans (findBestOverlap_le a b) (Nat.min_le_left ..)

theorem overlap_le_right (a b : List α) : findBestOverlap a b ≤ b.length :=
  Nat.le_trans (findBestOverlap_le a b) (Nat.min_le_right ..)

theorem findBestOverlap_nil_right (a : List α) : findBestOverlap a [] = 0 :=
  Nat.le_zero.mp (overlap_le_right a [])

theorem findBestOverlap_nil_left (b : List α) : findBestOverlap ([] : List α) b = 0 :=
  Nat.le_zero.mp (overlap_le_left [] b)

/-! `mergeStep` is `cut` on both components (the logits need an overlap that fits into them, as it
does when there is one row per character). -/

theorem mergeStep_fst (acc p : List α × List β) :
    (mergeStep acc p).1 = cut acc.1 p.1 (findBestOverlap acc.1 p.1) :=
  mergeText_eq _ _ _ (overlap_le_left ..)

theorem mergeStep_snd (acc p : List α × List β) (h : findBestOverlap acc.1 p.1 ≤ acc.2.length) :
    (mergeStep acc p).2 = cut acc.2 p.2 (findBestOverlap acc.1 p.1) :=
  mergeLogits_eq acc.1 p.1 _ _ _ h

theorem mergeAll_cons (p : List α × List β) (ps : List (List α × List β)) :
    mergeAll (p :: ps) = some ((ps.map shrink).foldl mergeStep (shrink p)) := rfl

/-- Length law for one merge: |result| = |acc| + |part| − overlap. -/
theorem mergeStep_length (acc p : List α × List β) :
    (mergeStep acc p).1.length + findBestOverlap acc.1 p.1 = acc.1.length + p.1.length := by
  rw [mergeStep_fst]
  exact length_cut_add _ _ _ (overlap_le_left ..) (overlap_le_right ..)

/-- One logits row per character is preserved by a merge. -/
theorem mergeStep_rows (acc p : List α × List β) (ha : acc.2.length = acc.1.length)
    (hp : p.2.length = p.1.length) :
    (mergeStep acc p).2.length = (mergeStep acc p).1.length := by
  rw [mergeStep_fst, mergeStep_snd _ _ (ha ▸ overlap_le_left ..), length_cut, length_cut, ha, hp]

theorem foldl_mergeStep_length (qs : List (List α × List β)) : ∀ (acc : List α × List β),
    (qs.foldl mergeStep acc).1.length + (overlaps acc qs).sum
      = acc.1.length + (qs.map (·.1.length)).sum := by
  induction qs with
  | nil => intro acc; rfl
  | cons q qs ih =>
    intro acc
    rw [List.foldl_cons, overlaps, List.sum_cons, List.map_cons, List.sum_cons, Nat.add_left_comm,
      ih, ← Nat.add_assoc, Nat.add_comm _ (mergeStep acc q).1.length, mergeStep_length, Nat.add_assoc]

theorem foldl_mergeStep_rows (qs : List (List α × List β))
    (hq : ∀ q ∈ qs, q.2.length = q.1.length) (acc : List α × List β)
    (ha : acc.2.length = acc.1.length) :
    (qs.foldl mergeStep acc).2.length = (qs.foldl mergeStep acc).1.length :=
  List.foldlRecOn qs mergeStep ha fun acc h q hm => mergeStep_rows acc q h (hq q hm)

theorem foldl_mergeStep_prefix (qs : List (List α × List β)) : ∀ (acc : List α × List β),
    acc.1.take (acc.1.length - ((overlaps acc qs).map (fun o => (o + 1) / 2)).sum)
      <+: (qs.foldl mergeStep acc).1 := by
  induction qs with
  | nil => intro acc; exact List.take_prefix ..
  | cons q qs ih =>
    intro acc
    rw [List.foldl_cons, overlaps, List.map_cons, List.sum_cons, Nat.sub_add_eq]
    -- what survives the later cuts of `acc` survives them in `mergeStep acc q`, which begins with
    -- the kept part of `acc`
    refine List.IsPrefix.trans ?_ (ih (mergeStep acc q))
    generalize ((overlaps (mergeStep acc q) qs).map (fun o => (o + 1) / 2)).sum = S
    rw [mergeStep_fst, length_cut, ← take_cut acc.1 q.1 _ _ (Nat.sub_le ..)]
    exact List.take_prefix_take_left (Nat.sub_le_sub_right (Nat.le_add_right ..) S)

/-- Parts that share no overlap (in particular empty parts) are concatenated unchanged. -/
theorem no_overlap_concat (acc p : List α × List β) (h : findBestOverlap acc.1 p.1 = 0) :
    mergeStep acc p = (acc.1 ++ p.1, acc.2 ++ p.2) := by
  apply Prod.ext
  · rw [mergeStep_fst, h, cut_zero]
  · rw [mergeStep_snd _ _ (by omega), h, cut_zero]

theorem empty_part_right (acc : List α × List β) (l : List β) :
    mergeStep acc ([], l) = (acc.1, acc.2 ++ l) := by
  rw [no_overlap_concat acc ([], l) (findBestOverlap_nil_right acc.1), List.append_nil]

/-- n parts: the length is the sum of the part lengths minus the detected overlaps. -/
theorem mergeAll_length (p : List α × List β) (ps : List (List α × List β)) :
    ∃ r, mergeAll (p :: ps) = some r ∧
      r.1.length + (overlaps (shrink p) (ps.map shrink)).sum = ((p :: ps).map (·.1.length)).sum := by
  refine ⟨_, mergeAll_cons p ps, ?_⟩
  rw [foldl_mergeStep_length]
  simp only [shrink, List.map_cons, List.sum_cons, List.map_map, Function.comp_def]

/-- n parts, logits with at least as many rows as characters: exactly one row per merged character. -/
theorem mergeAll_rows (p : List α × List β) (ps : List (List α × List β))
    (h : ∀ q ∈ p :: ps, q.1.length ≤ q.2.length) :
    ∃ r, mergeAll (p :: ps) = some r ∧ r.2.length = r.1.length := by
  have hs : ∀ q ∈ p :: ps, (shrink q).2.length = (shrink q).1.length := fun q hq =>
    List.length_take_of_le (h q hq)
  refine ⟨_, mergeAll_cons p ps, ?_⟩
  apply foldl_mergeStep_rows
  · intro q hq
    obtain ⟨q', hq', rfl⟩ := List.mem_map.mp hq
    exact hs q' (List.mem_cons_of_mem _ hq')
  · exact hs p (List.mem_cons_self ..)

/-- The result ends with the last part, less the left half (rounded down) of its overlap. -/
theorem mergeAll_suffix (p : List α × List β) (ps : List (List α × List β)) (last : List α × List β) :
    ∃ r o, mergeAll (p :: (ps ++ [last])) = some r ∧ o ≤ last.1.length ∧
      last.1.drop (o / 2) <:+ r.1 := by
  refine ⟨_, findBestOverlap ((ps.map shrink).foldl mergeStep (shrink p)).1 last.1,
    mergeAll_cons p (ps ++ [last]), overlap_le_right .., ?_⟩
  rw [List.map_append, List.foldl_append, List.map_singleton, List.foldl_cons, List.foldl_nil,
    mergeStep_fst]
  exact List.suffix_append _ _

/-- Two parts: the result begins with the first part less ⌈o/2⌉ symbols (at most half the overlap,
rounded up), followed by the second part less its first ⌊o/2⌋ symbols. -/
theorem merge_two (p q : List α × List β) :
    ∃ r, mergeAll [p, q] = some r ∧
      r.1 = p.1.take (p.1.length - (findBestOverlap p.1 q.1 + 1) / 2) ++ q.1.drop (findBestOverlap p.1 q.1 / 2) := by
  refine ⟨_, mergeAll_cons p [q], ?_⟩
  rw [List.map_singleton, List.foldl_cons, List.foldl_nil, mergeStep_fst]
  rfl

/-- n parts: the first part less the sum of the left cuts is a prefix of the result. -/
theorem mergeAll_prefix (p : List α × List β) (ps : List (List α × List β)) :
    ∃ r, mergeAll (p :: ps) = some r ∧
      p.1.take (p.1.length - ((overlaps (shrink p) (ps.map shrink)).map (fun o => (o + 1) / 2)).sum) <+: r.1 := by
  refine ⟨_, mergeAll_cons p ps, ?_⟩
  exact foldl_mergeStep_prefix (ps.map shrink) (shrink p)

/-- Window splitting: first window starts at 0, consecutive windows overlap by `mlw / 4`, each has
width `mlw` (before clipping), and the last one reaches the end of the line. -/
theorem windows_chain (width mlw : Nat) (h : 0 < mlw) :
    (∃ rest, windows width mlw = (0, mlw) :: rest) ∧
    List.IsChain (fun a b : Nat × Nat => b.1 + mlw / 4 = a.2 ∧ b.2 = b.1 + mlw ∧ a.2 < width) (windows width mlw) ∧
    (∀ l ∈ (windows width mlw).getLast?, width ≤ l.2) := by
  have hstep : 1 ≤ mlw - mlw / 4 := by omega
  have hw : width ≤ mlw + width * (mlw - mlw / 4) :=
    Nat.le_trans (Nat.le_mul_of_pos_right width hstep) (Nat.le_add_left ..)
  exact ⟨windowsAux_cons .., windowsAux_chain width mlw width 0 mlw (Nat.zero_add _).symm,
    windowsAux_last width mlw width 0 mlw hw⟩

/-! ### Regrouping of the window results in `process_lines` (transformer mode) -/

/-- The spans cut the batch's window results into consecutive groups: nothing is lost, duplicated or reordered … -/
theorem regroup_flatten {γ : Type} (spans : List Nat) (xs : List γ) (h : spans.sum = xs.length) :
    (regroup spans xs).flatten = xs := by
  induction spans generalizing xs with
  | nil => rw [List.eq_nil_of_length_eq_zero h.symm]; rfl
  | cons s r ih =>
    rw [List.sum_cons] at h
    rw [regroup, List.flatten_cons, ih _ (by rw [List.length_drop, ← h, Nat.add_sub_cancel_left]),
      List.take_append_drop]

/-- … every line gets exactly as many window results as it was split into … -/
theorem regroup_lengths {γ : Type} (spans : List Nat) (xs : List γ) (h : spans.sum ≤ xs.length) :
    (regroup spans xs).map List.length = spans := by
  induction spans generalizing xs with
  | nil => rfl
  | cons s r ih =>
    rw [List.sum_cons] at h
    rw [regroup, List.map_cons, ih _ (by rw [List.length_drop]; exact Nat.le_sub_of_add_le' h),
      List.length_take_of_le (Nat.le_trans (Nat.le_add_right ..) h)]

/-- … namely its OWN ones: line `k` gets the results that start after the windows of the lines before it, and its
transcription / logits are the stitching of exactly these parts (empty and blank-only parts included). -/
theorem line_result (spans : List Nat) (parts : List (List α × List β)) (k : Nat) (hk : k < spans.length) :
    (batchResults spans parts)[k]? = some (mergeAll ((parts.drop (spans.take k).sum).take (spans.getD k 0))) := by
  simp [batchResults, getElem?_regroup spans parts k hk]

example : batchResults [2, 1] [([1,2,3], [10,11,12]), ([3,4], [20,21]), ([9], [30])] =
    [some ([1,2,3,4], [10,11,20,21]), some ([9], [30])] := by decide +kernel

/-- The merged TEXT does not depend on the logits handed over with the parts: stitching the transcriptions alone (`no_logits`) gives the
text of stitching transcriptions and logits together. -/
theorem text_independent_of_logits {γ : Type} (parts : List (List α × List β)) (parts' : List (List α × List γ))
    (h : parts.map (·.1) = parts'.map (·.1)) : (mergeAll parts).map (·.1) = (mergeAll parts').map (·.1) := by
  rw [mergeAll_fst, mergeAll_fst, h]

/-! Non-vacuity -/
example : mergeAll [([1,2,3,4,5], [10,11,12,13,14]), ([4,5,6], [20,21,22])] = some ([1,2,3,4,5,6], [10,11,12,13,21,22]) := by decide +kernel
example : mergeAll [([1,2,3], [10,11,12]), ([7,8,9], [20,21,22])] = some ([1,2,3,7,8,9], [10,11,12,20,21,22]) := by decide +kernel
example : findBestOverlap [1,2,3,4,5] [4,5,6] = 2 := by decide +kernel
example : windows 100 40 = [(0, 40), (30, 70), (60, 100)] := rfl

/-- `find_best_overlap` returns the FIRST overlap length of minimum character error rate below 1, and 0 exactly when no
overlap length has an error rate below 1 (error rates compared as exact fractions `ovDist i / i`). -/
theorem findBestOverlap_spec (t1 t2 : List α) :
    (findBestOverlap t1 t2 = 0 → ∀ i, 1 ≤ i → i ≤ min t1.length t2.length → i ≤ ovDist t1 t2 i) ∧
    (1 ≤ findBestOverlap t1 t2 →
      ovDist t1 t2 (findBestOverlap t1 t2) < findBestOverlap t1 t2 ∧
      ∀ i, 1 ≤ i → i ≤ min t1.length t2.length →
        ovDist t1 t2 (findBestOverlap t1 t2) * i ≤ ovDist t1 t2 i * findBestOverlap t1 t2 ∧
        (i < findBestOverlap t1 t2 →
          ovDist t1 t2 (findBestOverlap t1 t2) * i < ovDist t1 t2 i * findBestOverlap t1 t2)) := by
  -- `OvInv`: first minimum over `0..n` of the fractions `ovNum i / ovDen i`, where `0` stands for rate 1
  obtain ⟨hnum, hden, _, hmin⟩ := foldl_overlapStep_inv t1 t2 _
  unfold findBestOverlap
  generalize (List.range (min t1.length t2.length)).foldl (overlapStep t1 t2) (1, 1, 0) = st at *
  rw [hnum, hden] at hmin
  have hnd : ∀ i, 1 ≤ i → ovNum (ovDist t1 t2) i = ovDist t1 t2 i ∧ ovDen i = i := fun i hi =>
    ⟨if_neg (Nat.ne_of_gt hi), if_neg (Nat.ne_of_gt hi)⟩
  constructor
  · intro h0 i h1 h2
    have := (hmin i h2).1
    rw [h0, (hnd i h1).1, (hnd i h1).2] at this
    simpa [ovNum, ovDen] using this
  · intro hb
    rw [(hnd _ hb).1, (hnd _ hb).2] at hmin
    refine ⟨by simpa [ovNum, ovDen] using (hmin 0 (Nat.zero_le _)).2 hb, fun i h1 h2 => ?_⟩
    have := hmin i h2
    rwa [(hnd i h1).1, (hnd i h1).2] at this

/-- Windows of one text: when some suffix of the text so far literally IS a prefix of the next part, an overlap is detected, the
detected overlap is itself a literal one (error rate 0), and it is the SHORTEST literal overlap. -/
theorem exact_overlap_found (t1 t2 : List α)
    (h : ∃ i, 1 ≤ i ∧ i ≤ min t1.length t2.length ∧ t1.drop (t1.length - i) = t2.take i) :
    1 ≤ findBestOverlap t1 t2 ∧
    t1.drop (t1.length - findBestOverlap t1 t2) = t2.take (findBestOverlap t1 t2) ∧
    ∀ j, 1 ≤ j → j < findBestOverlap t1 t2 → t1.drop (t1.length - j) ≠ t2.take j := by
  obtain ⟨i, hi1, hi2, heq⟩ := h
  obtain ⟨h0, hpos⟩ := findBestOverlap_spec t1 t2
  have hz : ∀ k, ovDist t1 t2 k = 0 ↔ t1.drop (t1.length - k) = t2.take k := fun _ =>
    Lev.dist_unit_eq_zero_iff _ _
  have hb : 1 ≤ findBestOverlap t1 t2 := Nat.pos_of_ne_zero fun h => by
    have := h0 h i hi1 hi2; rw [(hz i).2 heq] at this; omega
  obtain ⟨_, hall⟩ := hpos hb
  -- rate 0 at `i` forces rate 0 at the minimiser, and a literal overlap before it would be a smaller minimiser
  have hdo : ovDist t1 t2 (findBestOverlap t1 t2) = 0 := by
    have := (hall i hi1 hi2).1
    rw [(hz i).2 heq, Nat.zero_mul] at this
    exact (Nat.mul_eq_zero.1 (Nat.le_zero.1 this)).resolve_right (Nat.ne_of_gt hi1)
  refine ⟨hb, (hz _).1 hdo, fun j hj1 hj2 hje => ?_⟩
  have := (hall j hj1 (Nat.le_trans (Nat.le_of_lt hj2) (findBestOverlap_le t1 t2))).2 hj2
  rw [hdo, (hz j).2 hje, Nat.zero_mul, Nat.zero_mul] at this
  exact Nat.lt_irrefl 0 this

/-! Non-vacuity: 'abcab' + 'abxy' has the literal overlaps 'ab' only; the shortest literal overlap wins over a longer one
('abab' + 'abab': 2, not 4); unrelated strings: 0. -/
example : findBestOverlap [1, 2, 3, 1, 2] [1, 2, 7, 8] = 2 ∧ findBestOverlap [1, 2, 1, 2] [1, 2, 1, 2] = 2 ∧
    findBestOverlap [1, 2, 3] [4, 5, 6] = 0 := by decide +kernel

end C15
