/-
C18 — property theorems (statements fixed by the architect; do not weaken).  PARTIAL: only the
rotated-analysis coordinate clause is decided here; the ridge decoding is oracle-only.
Helper lemmas: PeroVerif/Lemmas/Rot90.lean.
-/
import PeroVerif.Model.Rot90
import PeroVerif.Model.OrderLines
import PeroVerif.Lemmas.Rot90
import PeroVerif.Lemmas.OrderLines

namespace C18
open Rot

/-- the rotated image has the transposed shape for odd rotations -/
theorem rotShape_spec (rot H W : Nat) :
    rotShape rot H W = (if rot % 2 = 1 then (W, H) else (H, W)) := rfl

/-- the source pixel of every pixel of the rotated image lies inside the original image -/
theorem rotSrc_in_range (rot H W i j : Nat) (hi : i < (rotShape rot H W).1) (hj : j < (rotShape rot H W).2) :
    (rotSrc rot H W i j).1 < H ∧ (rotSrc rot H W i j).2 < W := by
  refine rot_cases rot H W (fun sh src => ∀ i j, i < sh.1 → j < sh.2 → (src i j).1 < H ∧ (src i j).2 < W)
    ?_ ?_ ?_ ?_ i j hi hj
  · exact fun i j hi hj => ⟨hi, hj⟩
  · exact fun i j hi hj => ⟨hj, flip_lt hi⟩
  · exact fun i j hi hj => ⟨flip_lt hi, flip_lt hj⟩
  · exact fun i j hi hj => ⟨flip_lt hj, hi⟩

/-- `np.rot90` is a bijection of pixels: distinct rotated pixels come from distinct original pixels -/
theorem rotSrc_injective (rot H W i j i' j' : Nat)
    (hi : i < (rotShape rot H W).1) (hj : j < (rotShape rot H W).2)
    (hi' : i' < (rotShape rot H W).1) (hj' : j' < (rotShape rot H W).2)
    (h : rotSrc rot H W i j = rotSrc rot H W i' j') : i = i' ∧ j = j' := by
  refine rot_cases rot H W (fun sh src => ∀ i j i' j', i < sh.1 → j < sh.2 → i' < sh.1 → j' < sh.2 →
    src i j = src i' j' → i = i' ∧ j = j') ?_ ?_ ?_ ?_ i j i' j' hi hj hi' hj' h
  · exact fun _ _ _ _ _ _ _ _ h => Prod.mk.inj h
  · exact fun _ _ _ _ hi _ hi' _ h => ⟨flip_inj hi hi' (Prod.mk.inj h).2, (Prod.mk.inj h).1⟩
  · exact fun _ _ _ _ hi hj hi' hj' h => ⟨flip_inj hi hi' (Prod.mk.inj h).1, flip_inj hj hj' (Prod.mk.inj h).2⟩
  · exact fun _ _ _ _ _ hj _ hj' h => ⟨(Prod.mk.inj h).2, flip_inj hj hj' (Prod.mk.inj h).1⟩

/-- `rotate_layout` is the exact inverse of `np.rot90` shifted by one pixel along each mirrored axis: the code
mirrors with `n - x` where the mirrored index is `n - 1 - x` (`flip_succ`). -/
theorem rotate_exact (rot H W i j : Nat) (hr : rot < 4)
    (hi : i < (rotShape rot H W).1) (hj : j < (rotShape rot H W).2) :
    rotateLayout rot (rotShape rot H W) ((j : Int), (i : Int)) =
      (((rotSrc rot H W i j).2 : Int) + (if rot = 1 ∨ rot = 2 then 1 else 0),
       ((rotSrc rot H W i j).1 : Int) + (if rot = 2 ∨ rot = 3 then 1 else 0)) := by
  match rot, hr with
  | 0, _ => rfl
  | 1, _ => exact Prod.ext (flip_succ (n := W) hi) rfl
  | 2, _ => exact Prod.ext (flip_succ (n := W) hj) (flip_succ (n := H) hi)
  | 3, _ => exact Prod.ext rfl (flip_succ (n := H) hj)

/-- When the page is analysed in a rotated orientation, every returned coordinate refers to the
original, un-rotated image within one pixel (each axis): for every `H, W ≥ 1` (non-square included),
every rotation 0..3 and every pixel `(i, j)` of the rotated image, `rotate_layout` applied to the
pixel's coordinates `(x', y') = (j, i)` lands within 1 of the original pixel's `(col, row)`. -/
theorem rotate_within_one_pixel (rot H W i j : Nat) (hr : rot < 4)
    (hi : i < (rotShape rot H W).1) (hj : j < (rotShape rot H W).2) :
    let src := rotSrc rot H W i j
    let q := rotateLayout rot (rotShape rot H W) ((j : Int), (i : Int))
    (q.1 - (src.2 : Int)).natAbs ≤ 1 ∧ (q.2 - (src.1 : Int)).natAbs ≤ 1 := by
  intro src q
  rw [show q = _ from rotate_exact rot H W i j hr hi hj]
  exact ⟨within_one _ _ (by split <;> simp), within_one _ _ (by split <;> simp)⟩

/-- … and the bound is tight: the code uses `W - x` where the exact inverse is `W - 1 - x` -/
theorem rotate_offset_exact (H W i j : Nat) (hi : i < (rotShape 1 H W).1) (hj : j < (rotShape 1 H W).2) :
    (rotateLayout 1 (rotShape 1 H W) ((j : Int), (i : Int))).1 = ((rotSrc 1 H W i j).2 : Int) + 1 :=
  congrArg Prod.fst (rotate_exact 1 H W i j (by decide) hi hj)

/-- un-rotated analysis leaves coordinates untouched -/
theorem rotate_zero (shape : Nat × Nat) (p : Int × Int) : rotateLayout 0 shape p = p := rfl

/-- the map is affine with unit steps: neighbouring points stay neighbours (so baselines, outlines and
region polygons keep their shape) -/
theorem rotate_affine (rot : Nat) (shape : Nat × Nat) (p d : Int × Int) (hr : rot < 4) :
    ∃ d' : Int × Int, rotateLayout rot shape (p.1 + d.1, p.2 + d.2) =
      ((rotateLayout rot shape p).1 + d'.1, (rotateLayout rot shape p).2 + d'.2) ∧
      d'.1 * d'.1 + d'.2 * d'.2 = d.1 * d.1 + d.2 * d.2 := by
  obtain ⟨p1, p2⟩ := p
  obtain ⟨d1, d2⟩ := d
  match rot, hr with
  | 0, _ => exact ⟨(d1, d2), rfl, rfl⟩
  | 1, _ =>
    refine ⟨(-d2, d1), ?_, ?_⟩
    · simp only [rotateLayout]
      refine Prod.ext ?_ rfl
      dsimp only; omega
    · dsimp only; rw [Int.neg_mul_neg, Int.add_comm]
  | 2, _ =>
    refine ⟨(-d1, -d2), ?_, ?_⟩
    · simp only [rotateLayout]
      refine Prod.ext ?_ ?_ <;> (dsimp only; omega)
    · dsimp only; rw [Int.neg_mul_neg, Int.neg_mul_neg]
  | 3, _ =>
    refine ⟨(d2, -d1), ?_, ?_⟩
    · simp only [rotateLayout]
      refine Prod.ext rfl ?_
      dsimp only; omega
    · dsimp only; rw [Int.neg_mul_neg, Int.add_comm]


/-! ### `order_lines_vertical`: the three parallel lists stay aligned -/
open OrdL

/-- `detect` orders baselines, heights and outlines by three SEPARATE sorts with the same (jittered) keys.
Position `i` of the three results holds the baseline, the heights and the outline of the SAME detected line:
zipping the three results gives the one sort of the zipped triples. -/
theorem order_lines_aligned {β η τ : Type} (keys : List Rat) (bs : List β) (hs : List η) (ts : List τ)
    (hb : bs.length = keys.length) (hh : hs.length = keys.length) (ht : ts.length = keys.length) :
    (orderLines keys bs hs ts).1.zip ((orderLines keys bs hs ts).2.1.zip (orderLines keys bs hs ts).2.2) =
      reorder keys (bs.zip (hs.zip ts)) := by
  simp only [orderLines]
  rw [reorder_zip keys hs ts (hh.trans ht.symm),
    reorder_zip keys bs (hs.zip ts) (by rw [List.length_zip, hb, hh, ht, Nat.min_self])]

/-- Ordering only permutes the lines ... -/
theorem order_lines_perm {α : Type} (keys : List Rat) (xs : List α) (h : xs.length = keys.length) :
    (reorder keys xs).Perm xs := by
  have := (sortByKey_perm (keys.zip xs)).map Prod.snd
  rwa [List.map_snd_zip (Nat.le_of_eq h)] at this

/-- ... into non-decreasing order of their (jittered) vertical position. -/
theorem order_lines_sorted {α : Type} (keys : List Rat) (xs : List α) :
    ((sortByKey (keys.zip xs)).map Prod.fst).Pairwise (fun a b => a ≤ b) := by
  exact sortByKey_sorted (keys.zip xs)

/-- With pairwise distinct keys (what the jitter is for) the order is strict, so Python's tuple comparison
never looks at the payloads (NumPy arrays, which cannot be compared) and `sorted` is this sort by key. -/
theorem order_lines_strict {α : Type} (keys : List Rat) (xs : List α) (hk : keys.Nodup) :
    ((sortByKey (keys.zip xs)).map Prod.fst).Pairwise (fun a b => a < b) := by
  have hnd : ((sortByKey (keys.zip xs)).map Prod.fst).Nodup :=
    ((sortByKey_perm _).map _).nodup_iff.mpr ((map_fst_zip_sublist keys xs).nodup hk)
  exact ((sortByKey_sorted _).and hnd).imp fun h => Rat.lt_of_le_of_ne h.1 h.2

example : orderLines [(5/2 : Rat), 1/2, 3/2] ["b2", "b0", "b1"] [2, 0, 1] ['c', 'a', 'b'] =
    (["b0", "b1", "b2"], [0, 1, 2], ['a', 'b', 'c']) := by decide +kernel

end C18
