/-
C04 — the three greedy CTC decoders compute the collapse of the arg-max path.
Helper lemmas: PeroVerif/Lemmas/Ctc.lean (shared collapse lemmas, reused by C02/C05) and
PeroVerif/Lemmas/Greedy.lean.
-/
import PeroVerif.Model.Greedy
import PeroVerif.Lemmas.Ctc
import PeroVerif.Lemmas.Greedy

namespace C04
open Ctc Greedy

/-- `argmaxFirst` is the first maximum (NumPy / Torch tie rule), for every non-empty frame. -/
theorem argmaxFirst_spec (l : List Int) (h : l ≠ []) :
    ∃ hi : argmaxFirst l < l.length,
      (∀ j (hj : j < l.length), l[j] ≤ l[argmaxFirst l]) ∧
      (∀ j (hj : j < argmaxFirst l), l[j]'(by omega) < l[argmaxFirst l]) := by
  cases l with
  | nil => exact absurd rfl h
  | cons x xs =>
    obtain ⟨h1, h2, h3⟩ := ListAux.scanFirst_head_spec strictWeak_int x xs
    rw [← argmaxFirst_cons] at h1 h3
    obtain ⟨hi, hb⟩ := List.getElem?_eq_some_iff.1 h1
    refine ⟨hi, fun j hj => ?_, fun j hj => ?_⟩
    · simpa [← hb] using h2 _ (List.getElem_mem hj)
    · simpa [← hb] using h3 j _ hj (List.getElem?_eq_getElem _)

/-- The engine's index pipeline is the CTC collapse of the arg-max path (every line, every length,
every number of classes ≥ 1; blank = last class). -/
theorem engineLine_eq (C : Nat) (hC : 0 < C) (am : List Nat) :
    engineLine C am = collapse (C - 1) am := by
  rw [engineLine_eq_engineAux, engineAux_eq_collapseAux C hC, collapseAux_some_blank, collapse]

/-- The stand-alone decoder (groupby heads, drop blanks) is the CTC collapse. -/
theorem standalone_eq (blank : Nat) (am : List Nat) :
    standalone blank am = collapse blank am := standalone_eq_collapse blank am

/-- `greedy_filtration`'s loop is the CTC collapse. -/
theorem filtration_eq (blank : Nat) (am : List Nat) :
    filtration blank none am = collapse blank am := by
  rw [filtration_eq_collapseAux blank none (by simp), collapse]

/-- Both decoders give the same text for the same network output. -/
theorem decoders_agree (C : Nat) (hC : 0 < C) (frames : List (List Int)) :
    engineLine C (argmaxPath frames) = standalone (C - 1) (argmaxPath frames) := by
  rw [engineLine_eq C hC, standalone_eq]

/-- Batched decoding is line-wise: line `i` of the batch result depends on line `i` only. -/
theorem batch_pointwise (C : Nat) (hC : 0 < C) (ams : List (List Nat)) (i : Nat) :
    (engineBatch C ams)[i]? = (ams[i]?).map (collapse (C - 1)) := by
  have : engineLine C = collapse (C - 1) := funext (engineLine_eq C hC)
  simp only [engineBatch, List.getElem?_map, this]

/-- Mapping through an injective character table commutes with everything above (the text is the
image of the collapsed index sequence). -/
theorem text_eq {χ : Type} (chars : Nat → χ) (C : Nat) (hC : 0 < C) (am : List Nat) :
    (engineLine C am).map chars = (collapse (C - 1) am).map chars := by
  rw [engineLine_eq C hC]

/-- The greedy transcription never contains the blank. -/
theorem collapse_no_blank (blank : Nat) (am : List Nat) : ∀ x ∈ collapse blank am, x ≠ blank := by
  intro x hx h; exact blank_not_mem_collapse blank am (h ▸ hx)

/-- ... contains only classes that are the arg-max of some frame, and is never longer than the line
has frames. -/
theorem collapse_sub (blank : Nat) (am : List Nat) :
    (∀ x ∈ collapse blank am, x ∈ am) ∧ (collapse blank am).length ≤ am.length :=
  ⟨fun _ => mem_collapse, collapse_length_le blank am⟩

/-- A line whose every frame prefers the blank decodes to the empty transcription. -/
theorem collapse_all_blank (blank : Nat) (am : List Nat) (h : ∀ x ∈ am, x = blank) :
    collapse blank am = [] :=
  List.eq_nil_iff_forall_not_mem.2 fun x hx => collapse_no_blank blank am x hx (h x (mem_collapse hx))

/-- The engine's index pipeline inherits all of it (blank = last class). -/
theorem engineLine_clean (C : Nat) (hC : 0 < C) (am : List Nat) :
    (∀ x ∈ engineLine C am, x ≠ C - 1 ∧ x ∈ am) ∧ (engineLine C am).length ≤ am.length := by
  rw [engineLine_eq C hC]
  exact ⟨fun x hx => ⟨collapse_no_blank _ _ x hx, (collapse_sub _ _).1 x hx⟩, (collapse_sub _ _).2⟩

/-! Non-vacuity: first frame non-blank, repeats split by blank, trailing blank, last class next to blank. -/
example : engineLine 3 [0, 0, 2, 0, 1, 1, 2] = [0, 0, 1] := by decide +kernel
example : collapse 2 [0, 0, 2, 0, 1, 1, 2] = [0, 0, 1] := by decide +kernel
example : engineLine 3 [2, 2, 2] = [] := by decide +kernel
example : argmaxFirst [3, 7, 7, 1] = 1 := by decide +kernel

end C04
