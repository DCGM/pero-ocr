/-
C16 — property theorems (statements fixed by the architect; do not weaken).
Helper lemmas: PeroVerif/Lemmas/Confidence.lean, PeroVerif/Lemmas/LogSumExp.lean.
-/
import Mathlib.Algebra.Order.Field.Basic
import Mathlib.Analysis.SpecialFunctions.Log.Basic
import PeroVerif.Model.Confidence
import PeroVerif.Lemmas.Confidence
import PeroVerif.Lemmas.LogSumExp

namespace C16
open Conf

/-- obligations on the GENERATED window border and end sentinel of `get_line_confidence` — the ONLY places that
evaluate `Gen.Confidence.nextBorder` / `Gen.Confidence.sentinel`: the border between the windows of two neighbouring
characters lies strictly after the first character's frame (`a < border`) and not after the second's
(`border ≤ a'`) — so every window contains its own character's frame —, it is their midpoint rounded as
`(a + 1 + a') / 2`, and the sentinel is at least the number of frames. -/
theorem cfg_nextBorder (a a' : Nat) : (Gen.Confidence.nextBorder (a : Int) (a' : Int)).toNat = (a + 1 + a') / 2 := by
  rw [Gen.Confidence.nextBorder, Py.floorDiv_two]
  exact Int.toNat_natCast ((a + 1 + a') / 2)  -- the casts commute by computation

theorem cfg_sentinel (T : Nat) : (Gen.Confidence.sentinel (T : Int)).toNat = max 1000 T := by
  rw [Gen.Confidence.sentinel, ← Nat.cast_ofNat (R := ℤ), ← Nat.cast_max, Int.toNat_natCast]

section Field
variable {R : Type} [Field R] [LinearOrder R] [IsStrictOrderedRing R]

def COps.of (R : Type) [Field R] [LinearOrder R] : COps R :=
  { zero := 0, one := 1, add := (· + ·), mul := (· * ·), lt := fun a b => decide (a < b),
    div := (· / ·), sub := (· - ·) }

/-- posteriors: every frame has `C` entries in [0,1] (summing to 1: not even needed for the ranges) -/
def Probs (C : ℕ) (probs : List (List R)) : Prop :=
  ∀ row ∈ probs, row.length = C ∧ ∀ x ∈ row, 0 ≤ x ∧ x ≤ 1

theorem COps.of_eq : COps.of R = cops R := rfl

/-- Per-character confidences are probabilities. -/
theorem lineConfidence_range (C : ℕ) (probs : List (List R)) (labels alignment : List ℕ) (cs : List R)
    (hp : Probs C probs) (h : getLineConfidence (COps.of R) probs labels alignment = some cs) :
    cs.length = labels.length ∧ ∀ c ∈ cs, 0 ≤ c ∧ c ≤ 1 := by
  obtain ⟨h1, h2⟩ := Conf.getLineConfidence_bounds (fun row hr x hx => ((hp row hr).2 x hx).1) h
  exact ⟨h1, fun c hc => let ⟨h0, row, hr, p, hx, hle⟩ := h2 c hc; ⟨h0, hle.trans ((hp row hr).2 p hx).2⟩⟩

/-- The computation is defined (no NumPy error: every window is non-empty) whenever the alignment is
strictly increasing inside the matrix — which C05 proves for `align_text` — and there are ≥ 2 classes. -/
theorem lineConfidence_defined (C : ℕ) (hC : 2 ≤ C) (probs : List (List R)) (labels alignment : List ℕ)
    (hp : Probs C probs) (hl : labels.length = alignment.length) (hlab : ∀ l ∈ labels, l < C)
    (hal : alignment.Pairwise (· < ·)) (hT : ∀ a ∈ alignment, a < probs.length) :
    ∃ cs, lineConfidence (COps.of R) probs labels alignment = some cs := by
  refine Conf.lineConfidence_definedL (fun a a' h => ?_) (fun T => ?_) hC (fun row hr => (hp row hr).1) hl hlab hal hT
  · rw [cfg_nextBorder]; omega
  · rw [cfg_sentinel]; exact le_max_right _ _

/-- One label: if the aligned frame gives the label probability 1 and, inside the label's window,
all mass of the other (non-blank, non-neighbour) symbols is 0 — as for one-hot posteriors — the
confidence is exactly 1. -/
theorem labelConfidence_onehot (C : ℕ) (probs : List (List R)) (labels al : List ℕ) (i lastBorder : ℕ)
    (c : R) (nb : ℕ) (hp : Probs C probs)
    (h : labelConfidence (COps.of R) probs labels al i lastBorder = some (c, nb))
    (hlab : ∀ row, probs[al.getD i 0]? = some row → row[labels.getD i 0]? = some 1)
    (hoth : ∀ row ∈ (probs.drop lastBorder).take (nb - lastBorder), ∀ j, j + 1 < C →
        j ≠ labels.getD i 0 → (i > 0 → j ≠ labels.getD (i - 1) 0) →
        (i + 1 < labels.length → j ≠ labels.getD (i + 1) 0) → row[j]? = some 0) :
    c = 1 := by
  rw [COps.of_eq] at h
  obtain ⟨label, a, a', row, labelProb, other, h1, h2, h3, h4, h5, -, h7, rfl⟩ :=
    labelConfidence_eq_some.1 h
  have e1 : labels.getD i 0 = label := by rw [List.getD_eq_getElem?_getD, h1]; rfl
  have e2 : al.getD i 0 = a := by rw [List.getD_eq_getElem?_getD, h2]; rfl
  rw [e1] at hlab hoth
  rw [e2] at hlab
  have hlp : labelProb = 1 := Option.some.inj (h5 ▸ hlab row h4)
  have hother : other = 0 := by
    obtain ⟨r, hr, hx⟩ := mem_window.1 (maxL_mem h7)
    obtain ⟨j, hj⟩ := List.mem_iff_getElem?.1 hx
    rcases maskRow_getElem? hj with h0 | ⟨hrj, hjl, hne, hprev, hnext⟩
    · exact h0
    · exact Option.some.inj (hrj ▸ hoth r hr j ((hp r (mem_of_mem_slice hr)).1 ▸ hjl) hne hprev hnext)
  rw [maxR_cops, hlp, hother]
  exact (congrArg (max 0) (sub_zero 1)).trans (max_eq_right zero_le_one)

/-- Transformer lines: the confidence is the posterior of the label in its own frame. -/
theorem transformer_range (C : ℕ) (probs : List (List R)) (labels : List ℕ) (cs : List R)
    (hp : Probs C probs) (h : lineConfidenceTransformer probs labels = some cs) :
    ∀ c ∈ cs, 0 ≤ c ∧ c ≤ 1 := by
  intro c hc
  obtain ⟨row, hr, hx⟩ := (Conf.transformer_mem h).2 c hc
  exact (hp row hr).2 c hx

/-- `get_letter_confidence` (exponentiated) and `compute_line_confidence` are probabilities. -/
theorem letterConfidence_range (C : ℕ) (probs : List (List R)) (alignment : List ℕ) (blank : ℕ)
    (cs : List R) (hp : Probs C probs)
    (h : letterConfidence (COps.of R) probs alignment blank = some cs) :
    ∀ c ∈ cs, 0 ≤ c ∧ c ≤ 1 := by
  intro c hc
  obtain ⟨row, hr, hx⟩ := Conf.letterConfidence_mem h c hc
  exact (hp row hr).2 c hx

theorem getProb_range (best : List (ℕ × R)) (h : ∀ b ∈ best, 0 ≤ b.2 ∧ b.2 ≤ 1) :
    0 ≤ getProb (COps.of R) best ∧ getProb (COps.of R) best ≤ 1 := by
  exact Conf.getProb_sel _ (fun p : R => 0 ≤ p ∧ p ≤ 1) ⟨zero_le_one, le_refl _⟩ h

/-- The two confidence notions of a line: the decoder's confident-line test looks at the SMALLEST per-frame best posterior, the stored
line confidence (`get_prob`) first merges runs of frames with the same best symbol (largest posterior of the run).  The stored value is
never below the decoder's: every lower bound of the per-frame best posteriors is a lower bound of `get_prob` — the two can differ, so a
threshold may separate them (which is why the confident-line test must not be answered from the stored value, cf. C08). -/
theorem getProb_ge_frame_min (best : List (ℕ × R)) (m : R) (hm : m ≤ 1) (h : ∀ b ∈ best, m ≤ b.2) :
    m ≤ getProb (COps.of R) best := by
  exact Conf.getProb_sel _ (fun p : R => m ≤ p) hm h

/-- The confident-line test is monotone in its threshold. -/
theorem confident_monotone (probs : List (List R)) (t₁ t₂ : R) (ht : t₁ ≤ t₂)
    (h : lineConfidentEnough (COps.of R) probs t₂ = some true) :
    lineConfidentEnough (COps.of R) probs t₁ = some true := by
  rw [COps.of_eq] at h ⊢
  rw [lineConfidentEnough_eq, Option.map_eq_some_iff] at h ⊢
  obtain ⟨w, hw, hlt⟩ := h
  rw [cops_lt, decide_eq_true_eq] at hlt
  exact ⟨w, hw, by rw [cops_lt, decide_eq_true_eq]; exact lt_of_le_of_lt ht hlt⟩

/-- Line / word confidence = median (`np.quantile(·, .5)`) of values in [0,1] is in [0,1]. -/
theorem median_range (xs : List R) (m : R) (hx : ∀ x ∈ xs, 0 ≤ x ∧ x ≤ 1)
    (h : median (COps.of R) 2 xs = some m) : 0 ≤ m ∧ m ≤ 1 := by
  exact Conf.median_rangeL xs m hx h

theorem median_defined (xs : List R) (hne : xs ≠ []) : ∃ m, median (COps.of R) 2 xs = some m := by
  exact Conf.median_defined hne

end Field

section Real
open Real

/-- `logsumexp` of one frame -/
noncomputable def lse (x : List ℝ) : ℝ := Real.log (x.map Real.exp).sum

/-- `log_softmax` of one frame: `x - logaddexp.reduce(x)` -/
noncomputable def logSoftmax (x : List ℝ) : List ℝ := x.map fun a => a - lse x

/-- Row-normalised: the posteriors `exp(log_softmax x)` of a frame sum to 1 … -/
theorem exp_logSoftmax_sum_one (x : List ℝ) (hne : x ≠ []) :
    ((logSoftmax x).map Real.exp).sum = 1 := by
  exact LogSumExp.sum_exp_sub_log_sum_exp hne

/-- … lie in (0, 1] … -/
theorem exp_logSoftmax_range (x : List ℝ) (hne : x ≠ []) :
    ∀ p ∈ (logSoftmax x).map Real.exp, 0 < p ∧ p ≤ 1 := by
  intro p hp
  have _ := hne
  rw [logSoftmax, List.map_map] at hp
  obtain ⟨a, ha, rfl⟩ := List.mem_map.1 hp
  exact ⟨Real.exp_pos _, Real.exp_le_one_iff.2 (sub_nonpos.2 (LogSumExp.le_log_sum_exp ha))⟩

/-- … and do not change when a constant is added to all logits of the frame. -/
theorem logSoftmax_shift (x : List ℝ) (c : ℝ) (hne : x ≠ []) :
    logSoftmax (x.map (· + c)) = logSoftmax x := by
  rw [logSoftmax, lse, LogSumExp.log_sum_exp_add x c hne, List.map_map]
  exact List.map_congr_left fun a _ => add_sub_add_right_eq_sub a _ c

end Real

end C16
