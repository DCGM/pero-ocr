/-
C07 — property theorems (statements fixed by the architect; do not weaken).
Helper lemmas: PeroVerif/Lemmas/Batching.lean.
-/
import PeroVerif.Model.Batching
import PeroVerif.Lemmas.Batching

namespace C07
open Bat

/-- The processing order is a permutation of the input positions (stable sort by descending width). -/
theorem order_perm (ws : List Nat) : (order ws).Perm (List.range ws.length) := by
  have h := (sortedPairs_perm ws).map (·.1)
  rwa [map_fst_zip_range] at h

/-- The lines are taken in order of non-increasing width (so the first line of a batch is its widest). -/
theorem order_descending (ws : List Nat) :
    (order ws).Pairwise (fun a b => widthOf ws a ≥ widthOf ws b) := by
  rw [order_eq, List.pairwise_map]
  refine (sortedPairs_pairwise ws).imp_of_mem fun {a b} ha hb hab => ?_
  have hm : ∀ p ∈ sortedPairs ws, widthOf ws p.1 = p.2 := fun p hp =>
    mem_zip_range_width ws p ((sortedPairs_perm ws).mem_iff.mp hp)
  rw [hm a ha, hm b hb]; exact hab

/-- Every line is processed in exactly one batch: the batches partition the processing order, for
every list of widths (≥ 1 px) and every batch size ≥ 1; no batch is empty. -/
theorem batches_partition (ws : List Nat) (batchSize pad : Nat) (hb : 1 ≤ batchSize) :
    ((batches ws batchSize pad).flatMap (·.1)) = order ws ∧
    ∀ b ∈ batches ws batchSize pad, b.1 ≠ [] :=
  have _ := hb  -- not needed: `max 1 …` already guards the chunk size
  ⟨flatMap_batchesAux ws _ pad _ _ (Nat.le_of_eq ((order_perm ws).length_eq.trans List.length_range)),
   fun b hb => by
    obtain ⟨i, rest, -, rfl⟩ := mem_batchesAux ws _ pad _ _ b hb
    intro h; rw [List.take_eq_nil_iff] at h; simp at h⟩

/-- Hence every input position receives exactly one result, and it is the network's output for the
line at that position (`process_lines … = lines.map f` under the locality assumption): independent of
list order, of batch mates and of the batch size. -/
theorem scatter_total {β : Type} (ws : List Nat) (batchSize pad : Nat) (hb : 1 ≤ batchSize) (out : Nat → β) :
    scatter ws.length (batches ws batchSize pad) out = (List.range ws.length).map fun i => some (out i) := by
  unfold scatter
  apply List.map_congr_left
  intro i hi
  have hmem : i ∈ order ws := (order_perm ws).mem_iff.mpr hi
  rw [← (batches_partition ws batchSize pad hb).1, List.mem_flatMap] at hmem
  obtain ⟨b, hb', hib⟩ := hmem
  rw [if_pos (List.any_eq_true.2 ⟨b, hb', by simpa using hib⟩)]

/-- The widest line of a batch determines the tensor width; no line of the batch is wider than the
un-padded part of the tensor unless the tensor was cropped to the engine maximum. -/
theorem batch_width (ws : List Nat) (batchSize pad : Nat) (hb : 1 ≤ batchSize) :
    ∀ b ∈ batches ws batchSize pad, ∀ i ∈ b.1,
      b.2 = 480 * batchSize ∨ widthOf ws i + 2 * pad ≤ b.2 := by
  have _ := hb
  intro b hb j hj
  obtain ⟨i, rest, hs, rfl⟩ := mem_batchesAux ws _ pad _ _ b hb
  have hw := Nat.le_trans (width_le_head (order_descending ws) hs hj) (le_ceil32 _)
  rcases Nat.le_total (ceil32 (widthOf ws i) + 2 * pad) (480 * batchSize) with h | h
  · exact Or.inr (Nat.le_trans (Nat.add_le_add_right hw _) (Nat.le_of_eq (Nat.min_eq_left h).symm))
  · exact Or.inl (Nat.min_eq_right h)

/-- The frame window is exactly the image of the un-padded columns `[pad, pad + w)` under the
sub-sampling: a frame `t` lies in the window iff its first input column `t * sub`… precisely:
`lo = pad / sub`, `hi = (pad + w) / sub`, so for `sub ∣ pad` the window has `⌊w / sub⌋` frames starting
at the line's first column. -/
theorem coords_window (pad sub w : Nat) (hs : 0 < sub) (hd : sub ∣ pad) :
    (coords pad sub w).1 * sub = pad ∧
    (coords pad sub w).2 - (coords pad sub w).1 = w / sub ∧
    (coords pad sub w).1 ≤ (coords pad sub w).2 := by
  obtain ⟨k, rfl⟩ := hd
  simp only [coords]
  rw [Nat.mul_div_cancel_left k hs, Nat.mul_add_div hs]
  generalize w / sub = q
  exact ⟨Nat.mul_comm _ _, Nat.add_sub_cancel_left .., Nat.le_add_right ..⟩

/-- Sparse storage keeps every logit whose posterior is at least the threshold unchanged and nothing
else (for any strict order given as a Boolean `lt`). -/
theorem sparsify_keeps {R : Type} (lt : R → R → Bool) (zero thr : R) (probs logits : List R)
    (hl : probs.length = logits.length) (i : Nat) (hi : i < logits.length) :
    (sparsify lt zero thr probs logits)[i]? =
      some (if lt (probs.getD i zero) thr then zero else logits.getD i zero) := by
  have hi' : i < probs.length := hl ▸ hi
  unfold sparsify
  rw [List.getElem?_zipWith, List.getElem?_eq_getElem hi', List.getElem?_eq_getElem hi]
  simp [List.getD_eq_getElem?_getD, List.getElem?_eq_getElem hi', List.getElem?_eq_getElem hi]

/-- Pixel budget: a batch of more than one line never exceeds `480 * batch_size` columns in total at the
32-aligned width of any of its lines — only a single over-wide line may (and is then cropped, `batch_width`). -/
theorem batch_budget (ws : List Nat) (batchSize pad : Nat) :
    ∀ b ∈ batches ws batchSize pad,
      b.1.length = 1 ∨ ∀ i ∈ b.1, b.1.length * ceil32 (widthOf ws i) ≤ 480 * batchSize :=
  batchesAux_budget ws (480 * batchSize) pad ws.length (order ws) (order_descending ws)

/-! Non-vacuity (the loop on an explicit descending order: an over-wide single line, a single line, a pair). -/
example : batchesAux [100, 900, 40, 500] 960 16 4 [1, 3, 0, 2] = [([1], 960), ([3], 544), ([0, 2], 160)] := by decide +kernel

end C07
