/-
C10 — property theorems (statements fixed by the architect; do not weaken).  PARTIAL: only the discrete /
algebraic skeleton is decided here (see the header of Model/Crop.lean).  `Gen.Crop.extrapolates` is GENERATED;
it may be evaluated ONLY in `cubic_extrapolates` (by `rfl`); `Gen.Crop.polyDegrees` ONLY in `cfg_fit_degree` (by `decide`).
Helper lemmas: PeroVerif/Lemmas/Crop.lean (imports single Mathlib modules only: Mathlib.Data.Rat.Floor,
Mathlib.Tactic.Ring, Mathlib.Tactic.LinearCombination).
-/
import PeroVerif.Model.Crop
import PeroVerif.Lemmas.Crop

namespace C10
open Crop

/-- obligation on the generated flag -/
theorem cubic_extrapolates : Gen.Crop.extrapolates = true := rfl

/-- obligation on the generated table: for every probed (INTERP, number of points) the source calls `np.polyfit` with `fitDegree` -/
theorem cfg_fit_degree : ∀ e ∈ Gen.Crop.polyDegrees, e.2.2 = fitDegree e.1 e.2.1 := by decide

/-- … and that degree is always determined by the points (fewer coefficients than points + 1): no under-determined fit, whose
minimum-norm solution would depend on the absolute position of the line (the shift defect fixed in decbd4e). -/
theorem fit_determined (poly n : Nat) (hp : 0 < poly) (hn : 2 ≤ n) : fitDegree poly n < n ∧ 1 ≤ fitDegree poly n := by
  unfold fitDegree
  split <;> omega

/-- Rows run linearly from the ascender height above the baseline (first row) to the descender height
below it (last row): `linspace` has `n` entries, starts at `a`, ends at `b`, constant step. -/
theorem rows_linear (a b : Rat) (n : Nat) (hn : 2 ≤ n) :
    (linspace a b n).length = n ∧ (linspace a b n)[0]? = some a ∧ (linspace a b n)[n - 1]? = some b ∧
    ∀ i, i + 1 < n → ∃ x y, (linspace a b n)[i]? = some x ∧ (linspace a b n)[i + 1]? = some y ∧
      y - x = (b - a) / ((n : Rat) - 1) := by
  refine ⟨linspace_length a b n, ?_, ?_, ?_⟩
  · rw [linspace_get a b n 0 (by omega), Nat.cast_zero, mul_zero, zero_div, add_zero]
  · have hne : (n : Rat) - 1 ≠ 0 := by
      rw [← Nat.cast_pred (by omega)]; exact Nat.cast_ne_zero.2 (by omega)
    rw [linspace_get a b n (n - 1) (by omega), Nat.cast_pred (by omega), mul_div_assoc, div_self hne, mul_one,
      add_sub_cancel]
  · intro i hi
    refine ⟨_, _, linspace_get a b n i (by omega), linspace_get a b n (i + 1) hi, ?_⟩
    push_cast
    ring

/-- The width is the arc length times target height over the (scaled) line height, rounded down. -/
theorem width_formula (arc h0 h1 s : Rat) (H : Nat) (hpos : 0 < (h0 + h1) * s) (harc : 0 ≤ arc) :
    let w := width arc h0 h1 s H
    0 ≤ w ∧ (w : Rat) * ((h0 + h1) * s) ≤ arc * H ∧ arc * H < ((w : Rat) + 1) * ((h0 + h1) * s) :=
  ⟨Int.floor_nonneg.2 (div_nonneg (mul_nonneg harc H.cast_nonneg) hpos.le),
    (le_div_iff₀ hpos).1 (Int.floor_le _), (div_lt_iff₀ hpos).1 (Int.lt_floor_add_one _)⟩

/-- Same pixels on the fast and on the general path: if the sample point lies in the box spanned by
the floor/ceil of the extreme coordinates, sampling the sub-image at shifted coordinates equals
sampling the page (every neighbour with non-zero weight is inside the sub-image). -/
theorem fast_eq_full (im : Image) (xmin ymin xmax ymax : Int) (fx fy : Rat)
    (hx : (xmin : Rat) ≤ fx ∧ fx ≤ xmax) (hy : (ymin : Rat) ≤ fy ∧ fy ≤ ymax) :
    fastSample im xmin ymin xmax ymax fx fy = bilinear im fx fy := by
  unfold fastSample
  split
  · rfl
  · rw [bilinear_eq, bilinear_eq]
    exact interp1_window (fun y hy0 hy1 => interp1_window (fun x hx0 hx1 =>
      sub_at im xmin ymin xmax ymax x y ⟨hx0, hx1⟩ ⟨hy0, hy1⟩) hx.1 hx.2) hy.1 hy.2

/-- Bilinear sampling is a convex combination: the value lies between the smallest and the largest
of the four neighbours, in particular inside the page it never leaves the grey range. -/
theorem bilinear_range (im : Image) (fx fy lo hi : Rat) (hlo : ∀ x y, lo ≤ im.at x y) (hhi : ∀ x y, im.at x y ≤ hi) :
    lo ≤ bilinear im fx fy ∧ bilinear im fx fy ≤ hi := by
  rw [bilinear_eq]
  have row (y : Int) := interp1_mem (g := fun x => im.at x y) (f := fx) ⟨hlo _ _, hhi _ _⟩ ⟨hlo _ _, hhi _ _⟩
  exact interp1_mem (row _) (row _)

/-- Every evaluation point of the cubic interpolant is admissible for every non-degenerate baseline
(with the generated flag); without extrapolation there are lengths for which it is not
(kernel-checked witness: fractional part 0.95). -/
theorem cubic_domain_ok (L : Rat) (hL : 0 ≤ L) : cubicDomainOK L = true := by
  have _ := hL  -- not needed once the flag is set
  unfold cubicDomainOK
  rw [cubic_extrapolates, Bool.true_or]

theorem cubic_domain_witness : decide (cubicEvalMax (2395 / 100) ≤ 2395 / 100 + 1 / 10) = false := by
  rw [cubicEvalMax_witness]
  decide +kernel

/-- `crop` never raises and the result always has the configured height; it is blank exactly when
the inner computation raised. -/
theorem crop_height (H : Nat) (inner : Option Nat) :
    (match cropOutcome H inner with | .cropped h _ => h | .blank h => h) = H ∧
    ((∃ h, cropOutcome H inner = .blank h) ↔ inner = none) := by
  cases inner <;> simp [cropOutcome]


/-! ### Resampling along the baseline and the grid of a straight baseline -/

/-- `reverse_line_mapping` as `get_crop_inputs` uses it (forward mapping `0 :: F'` starting at 0 — it is
`concat([0], cumsum(...))` — and non-negative sample positions): the scan never advances, and every output is
the point of the CHORD between the first and the last sampled value at fraction `t / L` (`L` = total length).
So the columns advance uniformly in the baseline frame's x, from the first to the last sample. -/
theorem reverse_is_chord (F' ts X : List Rat) (hF : F' ≠ []) (hlen : X.length = F'.length + 1)
    (hL : F'.getLast hF ≠ 0) (hts : ∀ t ∈ ts, 0 ≤ t) :
    ∃ x0 xl, X.head? = some x0 ∧ X.getLast? = some xl ∧
      reverseLineMapping (0 :: F') ts X = some (ts.map fun t => x0 + t / (F'.getLast hF) * (xl - x0)) := by
  have hX : X ≠ [] := by intro h; simp [h] at hlen
  exact ⟨X.head hX, X.getLast hX, List.head?_eq_some_head hX, List.getLast?_eq_some_getLast hX,
    reverseGo_chord (0 :: F') X _ _ _ rfl
      ((List.getLast?_cons_of_ne_nil hF).trans (List.getLast?_eq_some_getLast hF))
      (List.head?_eq_some_head hX) (List.getLast?_eq_some_getLast hX) hL ts hts⟩

/-- Documented consequence: it is NOT the inverse of the arc-length map (that would give 11 here). -/
example : reverseLineMapping [0, 1, 5/2] [1] [10, 11, 12] = some [54/5] := by decide +kernel

/-- number of target columns of a straight baseline with `n` unit samples -/
def straightCount (n : Nat) (h0 h1 : Rat) (H : Nat) : Nat :=
  ((((n : Nat) : Rat) - 1) * ((H : Nat) : Rat) / (h0 + h1)).floor.toNat

/-- The grid of a straight baseline exists (no exception inside), has the configured height and
`straightCount` columns. -/
theorem straight_grid_shape (R : Rot) (left y0 : Rat) (n : Nat) (h0 h1 : Rat) (H : Nat) (hn : 2 ≤ n) (hH : 2 ≤ H) :
    ∃ g, straightGrid R left y0 n h0 h1 H = some g ∧ g.length = H ∧
      ∀ row ∈ g, row.length = straightCount n h0 h1 H := by
  have _ := hH  -- not needed: `linspace` has `H` entries for every `H`
  refine ⟨_, straightGrid_eq R left y0 n h0 h1 H hn, ?_, ?_⟩
  · rw [List.length_map, linspace_length]
  · intro row hrow
    obtain ⟨v, _, rfl⟩ := List.mem_map.1 hrow
    rw [List.length_map, List.length_map, linspace_length]; rfl

/-- Columns advance uniformly along the baseline from its first to its last sample, rows run linearly from
`-h0` (first row) to `+h1` (last row) perpendicular to it: entry `(r, c)` of the grid is the rotation back of
`(left + (n-1)·c/(count-1), y0 - h0 + (h0+h1)·r/(H-1))`. -/
theorem straight_grid_entry (R : Rot) (left y0 : Rat) (n : Nat) (h0 h1 : Rat) (H : Nat) (hn : 2 ≤ n) (hH : 2 ≤ H)
    (hc : 2 ≤ straightCount n h0 h1 H) (g : List (List (Rat × Rat))) (hg : straightGrid R left y0 n h0 h1 H = some g)
    (r c : Nat) (hr : r < H) (hcc : c < straightCount n h0 h1 H) :
    (g[r]?.bind fun row => row[c]?) =
      some (R.apply (left + (((n : Nat) : Rat) - 1) * ((c : Nat) : Rat) / ((((straightCount n h0 h1 H : Nat)) : Rat) - 1),
                     y0 + (-h0 + (h1 - -h0) * ((r : Nat) : Rat) / (((H : Nat) : Rat) - 1)))) := by
  have _ := hH; have _ := hc  -- not needed: `linspace_get` holds for every length
  obtain rfl := Option.some.inj ((straightGrid_eq R left y0 n h0 h1 H hn).symm.trans hg)
  unfold straightCount at hcc
  rw [List.getElem?_map, linspace_get (-h0) h1 H r hr, Option.map_some, Option.bind_some,
    List.getElem?_map, List.getElem?_map, linspace_get 0 _ _ c hcc, Option.map_some, Option.map_some,
    sub_zero, zero_add]
  rfl

/-- The rotation back to page coordinates preserves distances ... -/
theorem rot_isometry (R : Rot) (h : R.c * R.c + R.s * R.s = 1) (p q : Rat × Rat) :
    ((R.apply p).1 - (R.apply q).1) * ((R.apply p).1 - (R.apply q).1) +
      ((R.apply p).2 - (R.apply q).2) * ((R.apply p).2 - (R.apply q).2) =
    (p.1 - q.1) * (p.1 - q.1) + (p.2 - q.2) * (p.2 - q.2) := by
  simp only [Rot.apply]
  linear_combination ((p.1 - q.1) * (p.1 - q.1) + (p.2 - q.2) * (p.2 - q.2)) * h

/-- ... and right angles: a step along the baseline (dx) and a step across it (dy) stay perpendicular in
page coordinates, so in the crop of a straight baseline rows run perpendicular to the columns' direction. -/
theorem rot_perpendicular (R : Rot) (h : R.c * R.c + R.s * R.s = 1) (x y dx dy : Rat) :
    ((R.apply (x + dx, y)).1 - (R.apply (x, y)).1) * ((R.apply (x, y + dy)).1 - (R.apply (x, y)).1) +
      ((R.apply (x + dx, y)).2 - (R.apply (x, y)).2) * ((R.apply (x, y + dy)).2 - (R.apply (x, y)).2) = 0 := by
  have _ := h  -- not needed: holds for every matrix of the form [[c, s], [-s, c]]
  simp only [Rot.apply]
  ring

/-- non-vacuity: a 3-4-5 rotation is admissible and the example grid is defined -/
example : ((3 : Rat) / 5) * (3 / 5) + (4 / 5) * (4 / 5) = 1 := by decide +kernel
example : (straightGrid ⟨3/5, 4/5⟩ 5 7 5 2 1 3).isSome = true := by decide +kernel

end C10
