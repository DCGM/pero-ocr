/-
C13 — property theorems (statements fixed by the architect; do not weaken).
Helper lemmas go to PeroVerif/Lemmas/Lev.lean; this file only holds the property theorems and
non-vacuity examples.
-/
import PeroVerif.Model.Lev
import PeroVerif.Spec.Lev
import PeroVerif.Lemmas.Lev
import PeroVerif.Lemmas.LevSub
import PeroVerif.Lemmas.LevExtra

namespace C13
open Lev
variable {α : Type} [DecidableEq α]

/-- The DP value is a lower bound for EVERY alignment of `s` with `t` (any costs, any lengths). -/
theorem dist_le_cost (c : Costs) (s t : List α) (al : Alignment α)
    (hw : WellFormed al) (hs : srcOf al = s) (ht : tgtOf al = t) :
    dist c s t ≤ cost c al := (dist_isMin c s t).2 al hw hs ht

/-- ... and it is attained: `dist` is the true minimum edit cost. -/
theorem dist_attained (c : Costs) (s t : List α) :
    ∃ al : Alignment α, WellFormed al ∧ srcOf al = s ∧ tgtOf al = t ∧ cost c al = dist c s t :=
  (dist_isMin c s t).1

/-- `levenshtein_alignment` never runs out of the matrix, projects to both inputs and has exactly the
minimum cost. -/
theorem alignment_correct (c : Costs) (s t : List α) :
    ∃ al, alignment c s t = some al ∧ WellFormed al ∧ srcOf al = s ∧ tgtOf al = t ∧
      cost c al = dist c s t := alignment_ok c s t

/-- `levenshtein_alignment_path`: the `1 / 0 / -1` path fits both sequences and replays to the minimum. -/
theorem path_correct (c : Costs) (s t : List α) :
    ∃ p, alignmentPath c s t = some p ∧ pathCost c s t p = some (dist c s t) := by
  obtain ⟨al, hal, hw, hs, ht, hc⟩ := alignment_ok c s t
  refine ⟨pathOf al, by simp [alignmentPath, hal], ?_⟩
  have := pathCost_pathOf c al hw
  rwa [hs, ht, hc] at this

/-- Substring variant: optimal over all infixes of the longer sequence (stated for all costs). -/
theorem substring_optimal (c : Costs) (s t : List α) :
    (∃ u, u <:+: (orient s t).1 ∧ dist c u (orient s t).2 = distSub c s t) ∧
    (∀ u, u <:+: (orient s t).1 → distSub c s t ≤ dist c u (orient s t).2) :=
  minOver_dist c _ _ (subBest_isMinInf c _ _)

/-- Unit-cost distance is symmetric (needed because `from_lists` measures `(ref, hyp)` but aligns
`(hyp, ref)`). -/
theorem dist_unit_symm (s t : List α) : dist unit s t = dist unit t s :=
  dist_symm unit rfl s t

/-- A sequence is at distance 0 from itself, for every cost table. -/
theorem dist_self (c : Costs) (s : List α) : dist c s s = 0 := Lev.dist_self c s

/-- With unit costs, zero errors means identical sequences (an error count of 0 is never reported
for a line that differs from its reference, and never a positive one for an identical line). -/
theorem dist_unit_eq_zero_iff (s t : List α) : dist unit s t = 0 ↔ s = t :=
  Lev.dist_unit_eq_zero_iff s t

/-- The unit-cost edit distance satisfies the triangle inequality (with `dist_self`, `dist_unit_symm` and
`dist_unit_eq_zero_iff`: it is a metric). -/
theorem dist_unit_triangle (s t u : List α) : dist unit s u ≤ dist unit s t + dist unit t u :=
  dist_triangle unit s t u

/-- The unit-cost distance is at least the difference of the lengths (both directions). -/
theorem dist_unit_ge_length_diff (s t : List α) :
    s.length ≤ t.length + dist unit s t ∧ t.length ≤ s.length + dist unit s t := by
  obtain ⟨al, _, hs, ht, hc⟩ := dist_attained unit s t
  have := len_le_cost al
  rw [hs, ht, hc] at this; exact this

/-- The unit-cost distance never exceeds the length of the longer sequence (pair the sequences
position by position and delete / insert the rest). -/
theorem dist_unit_le_max_length (s t : List α) : dist unit s t ≤ max s.length t.length := by
  obtain ⟨hw, hs, ht, hc⟩ := zipAl_props s t
  exact Nat.le_trans (dist_le_cost unit s t _ hw hs ht) hc

example : dist unit [1, 2, 3] [1, 2, 3] = 0 ∧ dist unit [1, 2, 3] [1, 3] = 1 := by decide +kernel

/-- A line's error summary: substitutions + insertions + deletions = distance, and the summary is
always produced. -/
theorem stats_sum (ref hyp : List α) :
    ∃ x, Summary.fromLists ref hyp = some x ∧ x.subs + x.inss + x.dels = x.errors ∧
      x.errors = dist unit ref hyp ∧ x.refLen = ref.length ∧ x.lines = 1 := by
  obtain ⟨al, hal, hw, hs, ht, hc⟩ := alignment_ok unit hyp ref
  refine ⟨_, fromLists_eq ref hyp al hal, ?_, rfl, rfl, rfl⟩
  show (editStats al).2.2.2.2 + (editStats al).2.2.1 + (editStats al).2.2.2.1 = dist unit ref hyp
  rw [editStats_sum al hw, hc]
  exact dist_symm unit rfl hyp ref

/-- The line-end classification of a line's error summary is always produced (the `AssertionError`s of
`get_match_type` and `BoundaryErrorsSummary` are unreachable from `from_lists`) and sets exactly one of the six flags:
the alignment is optimal, and an optimal alignment never ends in a run of errors that holds an insertion and a deletion
together (they would be cheaper as one substitution). -/
theorem ending_total (ref hyp : List α) :
    ∃ c, Summary.ending ref hyp = some c ∧ c ≠ .nothing := by
  obtain ⟨al, hal, hw, hs, ht, hc⟩ := alignment_ok unit hyp ref
  obtain ⟨h1, h2⟩ := optimal_suffix_no_ins_del hyp ref al hw hs ht hc
  obtain ⟨c, hc1, hc2⟩ := boundaryClass_ok _ h2 h1
  exact ⟨c, by simp only [Summary.ending, hal, matchTypes_wf al hw, hc1], hc2⟩

/-! Non-vacuity: a trailing deletion after a substitution (mixed), a clean end, trailing insertions. -/
example : Summary.ending [1, 2, 3, 4] [1, 2, 5] = some .mixedDel ∧ Summary.ending [1, 2] [1, 2] = some .correct ∧
    Summary.ending [1] [1, 7, 7] = some .pureIns := by decide +kernel

/-- Aggregation is plain (field-wise) addition. -/
theorem aggregate_append (xs ys : List Summary) :
    Summary.aggregate (xs ++ ys) = (Summary.aggregate xs).add (Summary.aggregate ys) := by
  simp only [Summary.aggregate, List.foldl_append]
  exact foldl_summary_add _ _

theorem aggregate_singleton (x : Summary) : Summary.aggregate [x] = x :=
  Summary.zero_add x

/-- The aggregated confusion table counts every (hypothesis symbol, reference symbol) pair exactly as
often as the per-line tables together: aggregation of tables is plain addition, for any number of
summaries and any nesting (`aggregate_confusions_append`). -/
theorem aggregate_confusions_count (p : Option α × Option α) (xs : List (List (Option α × Option α))) :
    (aggregateConfusions xs).count p = (xs.map (List.count p)).sum := by
  rw [aggregateConfusions_eq_flatten, List.count_flatten]

theorem aggregate_confusions_append (p : Option α × Option α) (xs ys : List (List (Option α × Option α))) :
    (aggregateConfusions [aggregateConfusions xs, aggregateConfusions ys]).count p =
      (aggregateConfusions (xs ++ ys)).count p := by
  simp [aggregateConfusions_eq_flatten]

/-- A line's confusion table holds one pair per reference symbol and one per insertion, and the
summary's counts are read off it: it is consistent with `ref_len` and `nb_inss`. -/
theorem confusions_total (ref hyp : List α) :
    ∃ x, Summary.fromLists ref hyp = some x ∧
      (Summary.confusions ref hyp).length = x.refLen + x.inss ∧
      ((Summary.confusions ref hyp).filter fun p => p.2 = none).length = x.inss := by
  obtain ⟨al, hal, hw, hs, ht, hc⟩ := alignment_ok unit hyp ref
  have hlen : (al.filter fun p => p.2 ≠ none).length = (tgtOf al).length := by
    clear hal hw hs ht hc
    induction al with
    | nil => rfl
    | cons p l ih => obtain ⟨a, _ | b⟩ := p <;> simpa [tgtOf_cons] using ih
  have hsplit : (al.filter fun p => p.2 = none).length + (al.filter fun p => p.2 ≠ none).length
      = al.length := by
    have := List.length_eq_countP_add_countP (fun p : Option α × Option α => p.2 ≠ none) (l := al)
    simp only [List.countP_eq_length_filter] at this
    simpa [Nat.add_comm] using this.symm
  refine ⟨_, fromLists_eq ref hyp al hal, ?_, ?_⟩
  · show (Summary.confusions ref hyp).length = ref.length + (al.length - (al.filter fun p => p.2 ≠ none).length)
    simp only [Summary.confusions, hal, Option.getD_some]
    rw [ht] at hlen; omega
  · show ((Summary.confusions ref hyp).filter fun p => p.2 = none).length = al.length - (al.filter fun p => p.2 ≠ none).length
    simp only [Summary.confusions, hal, Option.getD_some]
    omega

/-! Non-vacuity: concrete instances, evaluated by the kernel. -/
example : dist unit [1, 2, 3, 4] [9, 1, 2] = 3 := by decide +kernel
example : distSub unit [1, 2, 3, 4] [9, 1, 2] = 1 := by decide +kernel
example : alignment unit [1, 2, 3] [1, 3] = some [(some 1, some 1), (some 2, none), (some 3, some 3)] := by decide +kernel

/-! ### substring alignment -/

/-- a free pair consumes only the longer sequence (the first one unless the call swapped them) -/
def isFree (swapped : Bool) (p : Option α × Option α) : Bool := if swapped then p.1.isNone else p.2.isNone

/-- `levenshtein_alignment_substring` never runs out of its matrix, projects to both inputs, and once its
free leading and trailing part is removed its cost is exactly the substring optimum. -/
theorem substring_alignment_correct (c : Costs) (s t : List α) :
    ∃ al, alignmentSub c s t = some al ∧ WellFormed al ∧ srcOf al = s ∧ tgtOf al = t ∧
      ∃ pre core suf, al = pre ++ core ++ suf ∧
        (∀ p ∈ pre, isFree (decide (t.length > s.length)) p = true) ∧
        (∀ p ∈ suf, isFree (decide (t.length > s.length)) p = true) ∧
        cost c (if decide (t.length > s.length) then core.map Prod.swap else core) = distSub c s t := by
  obtain ⟨pre, core, suf, hal, wp, tp, ws, ts, hw, hsrc, htgt, hcost⟩ :=
    alignSubCore_ok c (orient s t).1 (orient s t).2
  rw [← distSub_eq] at hcost
  have hwall : WellFormed (pre ++ core ++ suf) := wf_append.2 ⟨wf_append.2 ⟨wp, hw⟩, ws⟩
  have hsall : srcOf (pre ++ core ++ suf) = (orient s t).1 := by
    rw [srcOf_append, srcOf_append]; exact hsrc
  have htall : tgtOf (pre ++ core ++ suf) = (orient s t).2 := by
    rw [tgtOf_append, tgtOf_append, tp, ts, htgt]; simp
  rw [alignmentSub_eq, hal]
  by_cases hsw : t.length > s.length
  · have ho : orient s t = (t, s) := by simp [orient, hsw]
    rw [ho] at hsall htall
    simp only [decide_eq_true hsw, if_true, Option.map_some]
    refine ⟨_, rfl, wf_swapAl hwall, (srcOf_swapAl _).trans htall, (tgtOf_swapAl _).trans hsall,
      pre.map Prod.swap, core.map Prod.swap, suf.map Prod.swap, ?_, ?_, ?_, ?_⟩
    · show List.map Prod.swap (pre ++ core ++ suf) = _
      simp
    · intro p hp
      obtain ⟨q, hq, rfl⟩ := List.mem_map.1 hp
      simp [isFree, tgtOf_eq_nil_iff.1 tp q hq]
    · intro p hp
      obtain ⟨q, hq, rfl⟩ := List.mem_map.1 hp
      simp [isFree, tgtOf_eq_nil_iff.1 ts q hq]
    · rw [List.map_map]
      simpa using hcost
  · have ho : orient s t = (s, t) := by simp [orient, hsw]
    rw [ho] at hsall htall
    simp only [decide_eq_false hsw, Bool.false_eq_true, if_false, Option.map_some]
    exact ⟨_, rfl, hwall, hsall, htall, pre, core, suf, rfl,
      fun p hp => by simp [isFree, tgtOf_eq_nil_iff.1 tp p hp],
      fun p hp => by simp [isFree, tgtOf_eq_nil_iff.1 ts p hp], hcost⟩

end C13
