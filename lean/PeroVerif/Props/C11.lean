/-
C11 — property theorems (statements fixed by the architect; do not weaken).  PARTIAL: everything shapely
computes is the parameter `mask`.  `Gen.Layout.rotSuffix` is GENERATED; it may be evaluated ONLY in
`rot_suffix` (by `rfl`).
Helper lemmas: PeroVerif/Lemmas/Assign.lean (may reuse PeroVerif/Lemmas/Decimal.lean).
-/
import PeroVerif.Model.Assign
import PeroVerif.Model.Clip
import PeroVerif.Lemmas.Decimal
import PeroVerif.Lemmas.Assign
import PeroVerif.Lemmas.Clip
import PeroVerif.Model.MergeLoop
import PeroVerif.Lemmas.MergeLoop

namespace C11
open Asg Py
variable {G : Type}

/-- obligation on the generated flag -/
theorem rot_suffix : Gen.Layout.rotSuffix = true := rfl

/-- The id scheme `'{}-l{:03d}'.format(region_id, i+1)` is injective in (region id, line index). -/
theorem lineId_injective (r r' : Str) (i i' : Nat) (h : lineId r i = lineId r' i') : r = r' ∧ i = i' :=
  lineId_inj r r' i i' h

/-- The bounding-box pre-filter never discards a line whose bounding box lies inside the region's
bounding box, unless the line is a single point: a baseline wholly inside a region is always offered to
the geometric test. -/
theorem prefilter_sound (l r : BBox) (hin : r.xmin ≤ l.xmin ∧ l.xmax ≤ r.xmax ∧ r.ymin ≤ l.ymin ∧ l.ymax ≤ r.ymax)
    (hwf : l.xmin ≤ l.xmax ∧ l.ymin ≤ l.ymax) (hnp : l.xmin < l.xmax ∨ l.ymin < l.ymax) :
    candidate l r = true := by
  have := hwf
  unfold candidate
  simp only [Bool.not_eq_true', Bool.and_eq_false_iff, Bool.or_eq_false_iff, decide_eq_false_iff_not]
  omega

/-- … and a line whose box is strictly separated from the region's box in both axes is never a candidate. -/
theorem prefilter_rejects (l r : BBox) (hy : l.ymax ≤ r.ymin ∨ l.ymin ≥ r.ymax) (hx : l.xmax ≤ r.xmin ∨ l.xmin ≥ r.xmax) :
    candidate l r = false := by
  unfold candidate
  simp only [Bool.not_eq_false', Bool.and_eq_true, Bool.or_eq_true, decide_eq_true_eq]
  exact ⟨hy, hx⟩

/-- What is stored in a region is exactly shapely's answer for the candidates, in detected-line order,
with the id of (region, line) and the line's own heights; existing lines are kept in front. -/
theorem assign_spec (mask : Nat → Nat → Option G) (lineBoxes : List BBox) (regs : List (Region G)) (ri : Nat)
    (r : Region G) (hr : regs[ri]? = some r) :
    ∃ r', (assign mask lineBoxes regs)[ri]? = some r' ∧ r'.id = r.id ∧ r'.bbox = r.bbox ∧
      r'.lines = r.lines ++ (List.range lineBoxes.length).filterMap fun li =>
        if candidate (lineBoxes.getD li ⟨0, 0, 0, 0⟩) r.bbox then (mask li ri).map fun g => ⟨lineId r.id li, g, li⟩ else none := by
  rw [assign_eq, List.getElem?_mapIdx, hr]
  exact ⟨_, rfl, rfl, rfl, congrArg (r.lines ++ ·) (newLine_filterMap mask lineBoxes ri r.id r.bbox)⟩

/-- A line shapely rejects (`mask = none`: it does not touch the region, or its piece is ≤ 2 px) is never placed. -/
theorem never_if_mask_none (mask : Nat → Nat → Option G) (lineBoxes : List BBox) (regs : List (Region G)) (ri li : Nat)
    (r : Region G) (hr : regs[ri]? = some r) (hm : mask li ri = none) (hold : ∀ p ∈ r.lines, p.id ≠ lineId r.id li) :
    ∀ r', (assign mask lineBoxes regs)[ri]? = some r' → ∀ p ∈ r'.lines, p.id ≠ lineId r.id li := by
  intro r' hr' p hp
  rw [assign_eq, List.getElem?_mapIdx, hr] at hr'
  cases hr'
  rcases List.mem_append.mp hp with hp | hp
  · exact hold p hp
  · obtain ⟨li', -, hp⟩ := List.mem_filterMap.mp hp
    obtain ⟨g, hg, rfl⟩ := newLine_eq_some hp
    intro he
    cases (lineId_inj _ _ _ _ he).2
    rw [hm] at hg
    cases hg

/-- All line ids produced by one assignment into empty regions with distinct ids are distinct. -/
theorem ids_nodup_one_call (mask : Nat → Nat → Option G) (lineBoxes : List BBox) (regs : List (Region G))
    (hid : (regs.map (·.id)).Nodup) (hempty : ∀ r ∈ regs, r.lines = []) :
    (((assign mask lineBoxes regs).flatMap (·.lines)).map (·.id)).Nodup := by
  have hid' := hid
  rw [← List.zipIdx_map_fst 0 regs, List.map_map] at hid'
  -- every id in slot `i` is a `lineId` of the slot's region id
  have key : ∀ {r : Region G} {i : Nat} {s : Str}, (r, i) ∈ regs.zipIdx →
      s ∈ (r.lines ++ (List.range lineBoxes.length).filterMap
        fun li => newLine mask lineBoxes li i r.id r.bbox).map (·.id) → ∃ li, s = lineId r.id li := by
    intro r i s hx hs
    rw [hempty r (List.zipIdx_map_fst 0 regs ▸ List.mem_map_of_mem (f := Prod.fst) hx), List.nil_append] at hs
    obtain ⟨p, hp, hs⟩ := List.mem_map.mp hs
    obtain ⟨li, -, hp⟩ := List.mem_filterMap.mp hp
    exact ⟨li, hs ▸ newLine_id hp⟩
  rw [assign_eq, List.mapIdx_eq_zipIdx_map, List.flatMap_map, List.map_flatMap, List.nodup_flatMap]
  refine ⟨?_, (List.pairwise_map.mp hid').imp_of_mem ?_⟩
  · rintro ⟨r, i⟩ hx
    dsimp only
    rw [hempty r (List.zipIdx_map_fst 0 regs ▸ List.mem_map_of_mem (f := Prod.fst) hx), List.nil_append,
      List.map_filterMap]
    refine List.Nodup.filterMap (fun a a' b hb hb' => ?_) List.nodup_range
    simp only [Option.mem_def, Option.map_eq_some_iff] at hb hb'
    obtain ⟨p, hp, rfl⟩ := hb
    obtain ⟨p', hp', he⟩ := hb'
    rw [newLine_id hp, newLine_id hp'] at he
    exact (lineId_inj _ _ _ _ he).2.symm
  · rintro ⟨r, i⟩ ⟨r', i'⟩ hx hy hne
    refine List.disjoint_left.mpr fun s hs hs' => ?_
    obtain ⟨li, rfl⟩ := key hx hs
    obtain ⟨li', he⟩ := key hy hs'
    exact hne (lineId_inj _ _ _ _ he).1

/-- The longest piece is kept (first maximum). -/
theorem pickLongest_max (lens : List Nat) (k : Nat) (h : pickLongest lens = some k) :
    ∃ hk : k < lens.length, (∀ j (hj : j < lens.length), lens[j] ≤ lens[k]) ∧ ∀ j (hj : j < k), lens[j]'(by omega) < lens[k] := by
  cases lens with
  | nil => cases h
  | cons x xs =>
    obtain ⟨-, hb, hmax, hfirst⟩ := pickLongest_inv x xs
    rw [show (xs.foldl _ (0, x, 1)).1 = k from Option.some.inj h] at hb hfirst
    obtain ⟨hk, hv⟩ := List.getElem?_eq_some_iff.mp hb
    refine ⟨hk, fun j hj => hv ▸ hmax _ (List.getElem_mem hj), fun j hj => hv ▸ hfirst _ ?_⟩
    exact List.mem_take_iff_getElem.mpr ⟨j, by omega, rfl⟩

/-- Across the orientation passes over the same given region the ids stay distinct (each pass places
each detected line at most once; rotations are distinct). -/
theorem pass_ids_nodup (rid : Str) (rots : List Nat) (placed : Nat → List Nat)
    (hr : rots.Nodup) (hp : ∀ rot ∈ rots, (placed rot).Nodup) :
    (passIds rid rots placed).Nodup :=
  passIds_nodup rot_suffix rid rots placed hr hp


/-! ### Rectangular regions: clipping is a theorem, not a parameter -/
open Clip

/-- Segment clipping is exact: a parameter `t ∈ [0, 1]` of the segment lies in the clipped interval iff the point at
`t` lies in the (closed) rectangle.  (Soundness and completeness of the Liang–Barsky intervals.) -/
theorem clipSeg_exact (r : Rect) (p q : Pt) (t : Rat) (h0 : 0 ≤ t) (h1 : t ≤ 1) :
    inRect r (lerp p q t) ↔ ∃ t0 t1, clipSeg r p q = some (t0, t1) ∧ t0 ≤ t ∧ t ≤ t1 := by
  refine Iff.trans ⟨fun h => ⟨⟨h0, h1⟩, h⟩, And.right⟩ ((clipSeg_mem r p q t).symm.trans ?_)
  rcases clipSeg r p q with _ | ⟨a, b⟩
  · exact ⟨False.elim, fun ⟨_, _, h, _⟩ => nomatch h⟩
  · exact ⟨fun h => ⟨a, b, rfl, h⟩, fun ⟨_, _, h, h'⟩ => by cases h; exact h'⟩

/-- The clipped interval is a sub-interval of `[0, 1]`. -/
theorem clipSeg_range (r : Rect) (p q : Pt) (t0 t1 : Rat) (h : clipSeg r p q = some (t0, t1)) :
    0 ≤ t0 ∧ t0 ≤ t1 ∧ t1 ≤ 1 :=
  (Clip.clipSeg_ends r p q t0 t1 h).1

/-- Every vertex of every placed piece lies inside the region. -/
theorem clip_in_rect (r : Rect) (pts : List Pt) :
    ∀ piece ∈ clipPolyline r pts, ∀ v ∈ piece, inRect r v :=
  forall_clipPolyline fun p rest _ =>
    clipGo_vertices r (inRect r) p rest (segAll_of_mem _ _ _ fun _ _ _ _ _ _ _ h => h)

/-- Every vertex of every placed piece lies on the detected baseline: it is the point at some parameter `t ∈ [0, 1]` of
one of its segments. -/
theorem clip_on_polyline (r : Rect) (pts : List Pt) :
    ∀ piece ∈ clipPolyline r pts, ∀ v ∈ piece,
      ∃ (i : Nat) (p q : Pt) (t : Rat), pts[i]? = some p ∧ pts[i + 1]? = some q ∧ 0 ≤ t ∧ t ≤ 1 ∧ v = lerp p q t := by
  refine forall_clipPolyline fun p rest e => ?_
  subst e
  exact clipGo_vertices r _ p rest
    (segAll_of_getElem _ _ _ fun i a b ha hb t h0 h1 _ => ⟨i, a, b, t, ha, hb, h0, h1, rfl⟩)

/-- A baseline wholly inside the region (all its points, hence all its vertices) is placed unchanged, as one piece. -/
theorem clip_inside_unchanged (r : Rect) (pts : List Pt) (hlen : 2 ≤ pts.length) (hin : ∀ v ∈ pts, inRect r v) :
    clipPolyline r pts = [pts] := by
  match pts, hlen, hin with
  | p :: q :: rest, _, hin =>
    have hseg : SegAll (fun p q => clipSeg r p q = some (0, 1)) p (q :: rest) :=
      segAll_of_mem _ _ _ (fun a ha b hb => clipSeg_inside r a b (hin a ha) (hin b hb))
    rw [clipPolyline_cons]
    rw [clipGo_cons_some r p q rest [] [] 0 1 hseg.1, if_pos rfl]
    have h1 : nextCur p q 0 1 [] = [q, p] := by
      unfold nextCur
      rw [if_neg (fun h => h.2 rfl), lerp_one, lerp_zero]
    have h2 : nextAcc 0 [] [] = [] := by
      unfold nextAcc
      rw [if_neg (fun h => h.2 rfl), flush_nil]
    rw [h1, h2, clipGo_all r rest q [q, p] [] hseg.2 (List.cons_ne_nil _ _)]
    simp

/-- A baseline that does not touch the region is never placed: if no point of any of its segments lies in the
rectangle, there is no piece. -/
theorem clip_untouched_empty (r : Rect) (pts : List Pt)
    (hout : ∀ (i : Nat) (p q : Pt) (t : Rat), pts[i]? = some p → pts[i + 1]? = some q → 0 ≤ t → t ≤ 1 → ¬ inRect r (lerp p q t)) :
    clipPolyline r pts = [] := by
  refine List.eq_nil_iff_forall_not_mem.2 (forall_clipPolyline fun p rest e piece hp => ?_)
  subst e
  -- the vertex invariant at `V := False`: a piece has no vertex, yet at least two
  have hv := clipGo_vertices r (fun _ => False) p rest
    (segAll_of_getElem _ _ _ fun i a b ha hb t h0 h1 => hout i a b t ha hb h0 h1) piece hp
  match piece, hv, clipGo_length r p rest piece hp with
  | v :: _, hv, _ => exact hv v List.mem_cons_self

/-- Every piece has at least two vertices (a start and an end). -/
theorem clip_piece_length (r : Rect) (pts : List Pt) : ∀ piece ∈ clipPolyline r pts, 2 ≤ piece.length :=
  forall_clipPolyline fun p rest _ => clipGo_length r p rest

example : clipPolyline ⟨0, 0, 10, 10⟩ [(-5, 5), (5, 5), (5, 20), (8, 20), (8, 5)] =
    [[(0, 5), (5, 5), (5, 10)], [(8, 10), (8, 5)]] := by decide +kernel

/-! ### the merge loop of `LayoutExtractor.process_page` (`MERGE_LINES`): `merge_lines` + re-assignment until the
number of lines of the region stops changing.  Model: `Model/MergeLoop.lean`. -/
section mergeloop
open MergeLoop

/-- The grouping pass of `merge_lines` partitions the removed lines: `merged_lines` is exactly the concatenation of
the groups, without repetition, and holds only valid indices — every removed line goes into exactly one new line. -/
theorem merge_groups_partition (c : Nat → Nat → Bool) (n : Nat) :
    (grouping c n).1.flatten = (grouping c n).2 ∧ (grouping c n).2.Nodup ∧ (∀ i ∈ (grouping c n).2, i < n) ∧
    (grouping c n).1.length = n :=
  let ⟨h1, h2, h3, h4⟩ := grouping_inv c n
  ⟨h1, h2, fun i hi => (h3 i hi).lt, h4⟩

/-- `merge_lines` never returns more lines than it was given, whatever the compatibility relation. -/
theorem merge_count_le (c : Nat → Nat → Bool) (n : Nat) : mergedCount c n ≤ n :=
  MergeLoop.mergedCount_le c n

theorem mergeLines_length_le (ls : List Ln) : (mergeLines ls).length ≤ ls.length :=
  MergeLoop.mergeLines_length_le ls

/-- A line that is compatible with no other line is returned unchanged. -/
theorem merge_keeps_isolated (ls : List Ln) (i : Nat) (hi : i < ls.length)
    (hiso : ∀ j, j < ls.length → j ≠ i → compat (ls.getD i default) (ls.getD j default) = false ∧
      compat (ls.getD j default) (ls.getD i default) = false) :
    ls.getD i default ∈ mergeLines ls := by
  unfold mergeLines
  simp only
  apply List.mem_append_left
  apply List.mem_map.mpr
  refine ⟨i, ?_, rfl⟩
  rw [List.mem_filter]
  refine ⟨List.mem_range.mpr hi, ?_⟩
  simp only [Bool.not_eq_true', List.contains_eq_mem, decide_eq_false_iff_not]
  intro hmem
  obtain ⟨a, ha, b, hb, hab, hc, h | h⟩ := (grouping_inv _ _).2.2.1 i hmem
  · subst h
    have hc' : compat (ls.getD i default) (ls.getD b default) = true := hc
    rw [(hiso b hb (Ne.symm hab)).1] at hc'
    cases hc'
  · subst h
    have hc' : compat (ls.getD a default) (ls.getD i default) = true := hc
    rw [(hiso a ha hab).2] at hc'
    cases hc'

/-- Re-assigning detected lines to ONE empty region places each line at most once. -/
theorem assign_count_le (mask : Nat → Nat → Option G) (lineBoxes : List BBox) (r : Region G) (hr : r.lines = []) :
    ∀ r', (assign mask lineBoxes [r])[0]? = some r' → r'.lines.length ≤ lineBoxes.length := by
  intro r' hr'
  rw [assign_eq, List.getElem?_mapIdx] at hr'
  cases hr'
  dsimp only
  rw [hr]
  simpa using List.length_filterMap_le _ (List.range lineBoxes.length)

/-- TERMINATION of the merge loop: for every step that does not increase the number of lines (merge, then re-assign
to the region) the loop stops after at most `n + 1` iterations (`n` = lines of the region); the fuel `n + 1` of the
model is never exhausted and more fuel changes nothing. -/
theorem merge_loop_terminates {α : Type} (step : List α → List α) (hstep : ∀ l, (step l).length ≤ l.length)
    (ls : List α) :
    ∃ r k, loop step (ls.length + 1) ls = some (r, k) ∧ 1 ≤ k ∧ k ≤ ls.length + 1 ∧ r.length ≤ ls.length ∧
      ∀ extra, loop step (ls.length + 1 + extra) ls = some (r, k) :=
  MergeLoop.loop_terminates step hstep ls

/-- … in particular for the modelled `merge_lines` followed by ANY re-assignment that places each line at most once
(`assign_count_le`), e.g. shapely dropping or clipping lines. -/
theorem merge_loop_terminates_model (reassign : List Ln → List Ln) (hre : ∀ l, (reassign l).length ≤ l.length)
    (ls : List Ln) :
    ∃ r k, loop (fun l => reassign (mergeLines l)) (ls.length + 1) ls = some (r, k) ∧ k ≤ ls.length + 1 :=
  let ⟨r, k, h, _, hk, _, _⟩ := MergeLoop.loop_terminates (fun l => reassign (mergeLines l))
    (fun l => Nat.le_trans (hre _) (MergeLoop.mergeLines_length_le l)) ls
  ⟨r, k, h, hk⟩

/-- When the loop stops, the last step did not change the number of lines (the code's exit condition). -/
theorem merge_loop_exit {α : Type} (step : List α → List α) (fuel : Nat) (ls r : List α) (k : Nat)
    (h : loop step fuel ls = some (r, k)) : ∃ prev, r = step prev ∧ (step prev).length = prev.length := by
  induction fuel generalizing ls k with
  | zero => cases h
  | succ fuel ih =>
    rw [loop_succ] at h
    split at h
    · rename_i he
      cases h
      exact ⟨ls, rfl, he⟩
    · obtain ⟨⟨r', k'⟩, hl, he⟩ := Option.map_eq_some_iff.mp h
      cases he
      exact ih _ _ hl

/-- non-vacuity: two adjacent words on one text line and a third line far below: the first pass fuses the two
(3 → 2 lines), the second pass changes nothing, the loop stops after 2 iterations -/
example :
    let ls : List Ln := [⟨0, 100, 50, 20, 5⟩, ⟨110, 200, 52, 20, 5⟩, ⟨0, 200, 300, 20, 5⟩]
    compat (ls.getD 0 default) (ls.getD 1 default) = true ∧ (mergeLines ls).length = 2 ∧
    (loop mergeLines 4 ls).map (fun r => (r.1.length, r.2)) = some (2, 2) := by
  decide +kernel

end mergeloop

end C11
