/-
C12 — property theorems (statements fixed by the architect; do not weaken).
Helper lemmas: PeroVerif/Lemmas/SmartSort.lean.
-/
import PeroVerif.Model.SmartSort
import PeroVerif.Model.Deskew
import PeroVerif.Lemmas.SmartSort
import PeroVerif.Lemmas.Deskew

namespace C12
open SS

/-- The smart sorter always terminates (the fuel `2n+2` is never exhausted) and only permutes the
regions — for every set of boxes (overlapping, nested, identical, degenerate), every intersection
parameter. Boxes are moved as whole records, so ids and geometry are untouched. -/
theorem smart_terminates_perm (num den : Nat) (bs : List Box) :
    ∃ out, smartSort num den bs = some out ∧ out.Perm bs := by
  unfold smartSort
  split
  · exact ⟨bs, rfl, List.Perm.refl _⟩
  · exact divide_total num den _ bs false false (by simp only [Bool.false_eq_true, if_false]; omega)

/-- More fuel never changes the result: the recursion depth is bounded by the number of regions. -/
theorem divide_fuel_irrelevant (num den : Nat) (bs : List Box) (vertical hasParent : Bool) (f₁ f₂ : Nat)
    (h₁ : bs.length + 2 ≤ f₁) (h₂ : bs.length + 2 ≤ f₂) :
    divide num den f₁ bs vertical hasParent = divide num den f₂ bs vertical hasParent := by
  obtain ⟨out, h, -⟩ := divide_total num den _ bs vertical hasParent (Nat.le_refl _)
  have hb : bs.length + (if hasParent then 1 else 2) ≤ bs.length + 2 := by cases hasParent <;> simp
  rw [divide_mono_le num den (hb.trans h₁) h, divide_mono_le num den (hb.trans h₂) h]

/-- Pages with fewer than two regions are returned unchanged. -/
theorem smart_small (num den : Nat) (bs : List Box) (h : bs.length < 2) : smartSort num den bs = some bs := by
  simp [smartSort, h]

/-- The coupling loop partitions its input: nothing lost, nothing duplicated, no empty group. -/
theorem couple_partition (num den : Nat) (vertical : Bool) (bs : List Box) :
    ((couple num den vertical bs.length bs).flatMap (·.members)).Perm bs ∧
    ∀ g ∈ couple num den vertical bs.length bs, g.members ≠ [] :=
  couple_partition_gen num den vertical bs.length bs (Nat.le_refl _)

/-- The fallback ordering is a permutation. -/
theorem decoupleOrder_perm (bs : List Box) : (decoupleOrder bs).Perm bs :=
  SS.decoupleOrder_perm bs

/-- Naive sorter: for every labelling with labels `0..k-1` (what DBSCAN returns) the order is a
permutation of the region indices; no region is lost or duplicated. -/
theorem naive_perm (keys : List Int) (labels : List Nat)
    (hlab : ∀ c ∈ labels, c < (uniq labels).length) :
    ∃ o, naiveOrder keys labels = some o ∧ o.Perm (List.range labels.length) :=
  SS.naive_perm keys labels hlab

/-! Non-vacuity: two columns × two rows given in scrambled order; four mutually overlapping boxes
(the recursive fallback). -/
def exGrid : List Box := [⟨0, 500, 400, 850, 650⟩, ⟨1, 100, 100, 450, 350⟩, ⟨2, 500, 100, 850, 350⟩, ⟨3, 100, 400, 450, 650⟩]
def exOverlap : List Box := [⟨0, 0, 0, 500, 500⟩, ⟨1, 100, 100, 600, 600⟩, ⟨2, 50, 200, 550, 700⟩, ⟨3, 200, 50, 700, 550⟩]

/-- `exGrid` is put into reading order: top row left to right, then bottom row. -/
example : smartSort 1 10 exGrid = some [⟨1, 100, 100, 450, 350⟩, ⟨2, 500, 100, 850, 350⟩,
    ⟨3, 100, 400, 450, 650⟩, ⟨0, 500, 400, 850, 650⟩] := by
  simp only [smartSort, divide, decoupleOrder, sortBy_eq]
  decide +kernel

/-- `exOverlap` goes through the "group did not split" fallback (`decoupleOrder`). -/
example : smartSort 1 10 exOverlap = some [⟨0, 0, 0, 500, 500⟩, ⟨2, 50, 200, 550, 700⟩,
    ⟨1, 100, 100, 600, 600⟩, ⟨3, 200, 50, 700, 550⟩] := by
  simp only [smartSort, divide, decoupleOrder, sortBy_eq]
  decide +kernel

/-- naive sorter: cluster 0 = {1, 3} (first key 1) before cluster 1 = {0, 2} (first key 5). -/
example : naiveOrder [5, 1, 3, 2] [1, 0, 1, 0] = some [1, 3, 2, 0] := by
  simp only [naiveOrder, uniq_eq, sortBy_eq]
  decide +kernel


/-! ### De-skew: rotating there and back leaves every geometry unchanged -/

/-- "Geometry unchanged as shapes": the sorter rotates every region outline, line polygon and baseline by `-angle`
before sorting and by `+angle` afterwards; in exact arithmetic that is the identity, vertex by vertex (floats add the
round-off the property allows). -/
theorem deskew_roundtrip (c s : Rat) (h : c * c + s * s = 1) (poly : List Deskew.Pt) :
    Deskew.thereAndBack c s poly = poly := by
  unfold Deskew.thereAndBack Deskew.rotPoly
  rw [List.map_map]
  exact (List.map_congr_left fun p _ => Deskew.rot_rot_back c s h p).trans (List.map_id _)

/-- The de-skew rotation is an isometry: while the page is rotated, all distances (hence region and line shapes) are
those of the original page. -/
theorem deskew_isometry (c s : Rat) (h : c * c + s * s = 1) (p q : Deskew.Pt) :
    ((Deskew.rot c s p).1 - (Deskew.rot c s q).1) * ((Deskew.rot c s p).1 - (Deskew.rot c s q).1) +
      ((Deskew.rot c s p).2 - (Deskew.rot c s q).2) * ((Deskew.rot c s p).2 - (Deskew.rot c s q).2) =
    (p.1 - q.1) * (p.1 - q.1) + (p.2 - q.2) * (p.2 - q.2) := by
  simp only [Deskew.rot]
  linear_combination ((p.1 - q.1) * (p.1 - q.1) + (p.2 - q.2) * (p.2 - q.2)) * h

/-- non-vacuity: the 3-4-5 rotation -/
example : Deskew.thereAndBack (3/5) (4/5) [(10, 20), (110, 20), (110, 70)] = [(10, 20), (110, 20), (110, 70)] := by
  decide +kernel

end C12
