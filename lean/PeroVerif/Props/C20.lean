/-
C20 — property theorems (statements fixed by the architect; do not weaken).  PARTIAL: the cache PROTOCOL
is decided here; float equality of the scores is checked differentially by the harness.
Helper lemmas: PeroVerif/Lemmas/KVCache.lean.
-/
import PeroVerif.Model.KVCache
import PeroVerif.Lemmas.KVCache
import PeroVerif.Model.Decoder
import PeroVerif.Lemmas.Decoder

namespace C20
open KV

/-- Within one batch started at step 1, whatever state the layer was left in by earlier batches (stale
caches of any batch size, garbage, nothing), every step `t` reads only slots written in THIS batch at steps
`1..t`, and the cross-attention keys/values of THIS batch. -/
theorem batch_reads_fresh (maxLen n B S steps : Nat) (ly : Layer) (hlen : steps ≤ maxLen)
    (hself : ∀ c, ly.selfCache = some c → c.length = maxLen)
    (hmem : ∀ b sl, ly.mem = some (b, sl) → sl.length = maxLen) :
    ∀ tr ∈ (runBatch maxLen n B S steps 1 ly).2, tr.2.fresh n tr.1 S = true :=
  (runBatch_spec maxLen n B S steps 0 ly (by omega) (.zero n B S ⟨hself, hmem⟩)).2

/-- For EVERY history of batches decoded with one model instance (equal or different batch sizes and source
lengths, any numbers of steps below the cache length), every read of every step is fresh: never garbage,
never a value of a previous batch — hence what the cached step computes from is exactly what recomputation
from scratch would supply at those positions. -/
theorem reads_fresh (maxLen : Nat) (hist : List Batch) (hsteps : ∀ b ∈ hist, b.steps ≤ maxLen) :
    ∀ r ∈ runHistory maxLen 0 hist Layer.init,
      r.2.2.fresh r.1 r.2.1 ((hist.getD r.1 ⟨0, 0, 0⟩).srcLen) = true := by
  intro r hr
  obtain ⟨j, b, hj, hn, hf⟩ := runHistory_fresh maxLen hist 0 Layer.init hsteps (lenInv_init maxLen) r hr
  rw [Nat.zero_add] at hn
  rw [List.getD_eq_getElem?_getD, hn, hj, ← hn]
  exact hf

/-- every batch of the history contributes exactly its steps, in order -/
theorem history_steps (maxLen : Nat) (hist : List Batch) :
    (runHistory maxLen 0 hist Layer.init).map (fun r => (r.1, r.2.1)) =
      (List.range hist.length).flatMap fun n => (List.range (hist.getD n ⟨0, 0, 0⟩).steps).map fun k => (n, k + 1) := by
  have h := runHistory_steps maxLen hist 0 Layer.init
  simpa using h

/-- The reshapes of the attention do not mix lanes: `(S, B, H·D) → view(-1, B·H, D)` addresses the same
memory cell, and the head-batch index `b·H + h` determines the line `b` and the head `h`. -/
theorem lanes_do_not_mix (B H D s b h d : Nat) :
    offSBE B H D s b h d = offView B H D s b h d := by
  simp only [offSBE, offView, Nat.add_mul, Nat.mul_assoc, Nat.add_assoc]

theorem head_batch_index_injective (H b h b' h' : Nat) (hh : h < H) (hh' : h' < H)
    (heq : b * H + h = b' * H + h') : b = b' ∧ h = h' := by
  -- `b` and `b'` are the quotient of the index by `H`
  have hb : b = b' := by
    have := congrArg (· / H) heq
    simpa [Nat.add_comm (_ * H), Nat.add_mul_div_right _ _ (Nat.zero_lt_of_lt hh), Nat.div_eq_of_lt hh,
      Nat.div_eq_of_lt hh'] using this
  subst hb
  exact ⟨rfl, Nat.add_left_cancel heq⟩

/-- Decoding always terminates: the loop stops after at most `W / 4 + 2` network evaluations (the fuel is
never exhausted), for every network `next`. -/
theorem loop_terminates (next : List (List Nat) → List Nat) (eos W B : Nat) :
    (transcribeLoop next eos W B).2 ≤ W / 4 + 2 ∧ 1 ≤ (transcribeLoop next eos W B).2 ∧
    (transcribeLoop next eos W B).1.length ≤ W / 4 + 1 := by
  unfold transcribeLoop
  generalize W / 4 = cap
  obtain ⟨h1, _, h3, h4⟩ := loop_bounds next eos cap (cap + 2) [] (List.replicate B true) 0 (Nat.zero_le _)
  exact ⟨by omega, h3 (by omega), by omega⟩

/-- The emitted transcription is free of boundary and ignore symbols and keeps the order of the kept symbols. -/
theorem output_clean (eos ign : Nat) (line : List Nat) :
    eos ∉ postprocess eos ign line ∧ ign ∉ postprocess eos ign line ∧
    (postprocess eos ign line).Sublist line :=
  ⟨fun h => (postprocess_mem eos ign line eos h).1 rfl, fun h => (postprocess_mem eos ign line ign h).2 rfl,
    postprocess_sublist eos ign line⟩

/-! ### what is computed: cached = recomputed = teacher-forced (functional model `Model/Decoder.lean`)

For EVERY choice of the layer functions (projections, attention, norms, feed-forward: in particular the float
kernels the code calls), every number of layers, every symbol sequence and every state the decoder object was
left in by earlier batches (stale caches, `torch.empty` garbage). -/
section functional
open Dec
variable {V M K KM : Type}

/-- Step-by-step decoding WITH key/value caches returns, at every step `t`, exactly position `t` of the full
masked (teacher-forced) pass over the symbols fed — whatever the caches held before. -/
theorem cached_eq_full (fs : List (LayerFn V M K KM)) (mem : M) (xs : List V) (ss : List (LState V K KM))
    (hlen : ss.length = fs.length) (hroom : ∀ s ∈ ss, s.roomy xs.length) :
    (runSteps true fs mem [] xs ss).2 = (fullDecoder fs mem xs).map some :=
  (runSteps_eq_full true fs mem xs ss _ hlen hroom (Nat.le_refl _)).1

/-- Step-by-step decoding that re-projects keys and values at every step (`is_cached=False`) does the same. -/
theorem uncached_eq_full (fs : List (LayerFn V M K KM)) (mem : M) (xs : List V) (ss : List (LState V K KM))
    (hlen : ss.length = fs.length) (hroom : ∀ s ∈ ss, s.roomy xs.length) :
    (runSteps false fs mem [] xs ss).2 = (fullDecoder fs mem xs).map some :=
  (runSteps_eq_full false fs mem xs ss _ hlen hroom (Nat.le_refl _)).1

/-- hence cached decoding = recomputation, step by step, from any two states -/
theorem cached_eq_uncached (fs : List (LayerFn V M K KM)) (mem : M) (xs : List V) (ss ss' : List (LState V K KM))
    (hlen : ss.length = fs.length) (hroom : ∀ s ∈ ss, s.roomy xs.length)
    (hlen' : ss'.length = fs.length) (hroom' : ∀ s ∈ ss', s.roomy xs.length) :
    (runSteps true fs mem [] xs ss).2 = (runSteps false fs mem [] xs ss').2 := by
  rw [cached_eq_full fs mem xs ss hlen hroom, uncached_eq_full fs mem xs ss' hlen' hroom']

/-- The masked pass is causal: the scores of the first `n` positions do not depend on later symbols (so the
scores of step `t` equal position `t` of the masked pass over the COMPLETE emitted sequence). -/
theorem full_prefix (fs : List (LayerFn V M K KM)) (mem : M) (xs : List V) (n : Nat) :
    fullDecoder fs mem (xs.take n) = (fullDecoder fs mem xs).take n :=
  Dec.fullDecoder_take fs mem xs n

/-- History independence: decoding a line with the decoder object left behind by ANY earlier line (other encoder
output, other symbols, other length) gives the scores of decoding it with fresh objects. -/
theorem history_independent (fs : List (LayerFn V M K KM)) (mem mem' : M) (xs xs' : List V)
    (ss : List (LState V K KM)) (n : Nat) (hlen : ss.length = fs.length) (hroom : ∀ s ∈ ss, s.roomy n)
    (hx : xs.length ≤ n) (hx' : xs'.length ≤ n) :
    (runSteps true fs mem [] xs (runSteps true fs mem' [] xs' ss).1).2 = (fullDecoder fs mem xs).map some :=
  have ⟨_, hlen', hroom'⟩ := runSteps_eq_full true fs mem' xs' ss n hlen hroom hx'
  (runSteps_eq_full true fs mem xs _ n hlen' hroom' hx).1

/-- a concrete layer over `Nat` for the non-vacuity check: every function is injective enough to tell inputs apart -/
def natLayer (c : Nat) : LayerFn Nat Nat Nat Nat where
  projKV y := 2 * y + c
  selfAttn y ks := y + 3 * ks.sum + ks.length
  projMem m := m + c
  crossAttn z km := z * km + 1
  add a b := a + 2 * b
  norm1 a := a + 1
  norm2 a := 2 * a
  norm3 a := a + c
  ff a := a * a

/-- non-vacuity: two layers, three symbols, caches of length 4 full of stale values (7, 8, 9): the hypotheses hold
and the cached run yields the values of the masked pass (no stale value is read) -/
example :
    let ss : List (LState Nat Nat Nat) := [⟨[7, 7, 7, 7], 8, [9, 9, 9, 9]⟩, ⟨[9, 8, 7, 6], 5, [4, 3, 2, 1]⟩]
    (ss.length = 2 ∧ ∀ s ∈ ss, s.roomy 3) ∧
    (runSteps true [natLayer 1, natLayer 2] 5 [] [1, 2, 3] ss).2 =
      (fullDecoder [natLayer 1, natLayer 2] 5 [1, 2, 3]).map some ∧
    (fullDecoder [natLayer 1, natLayer 2] 5 [1, 2, 3]) ≠ (fullDecoder [natLayer 1, natLayer 2] 5 [1, 2, 4]) := by
  unfold LState.roomy
  decide +kernel

end functional

end C20
