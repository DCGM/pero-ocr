/-
C19 — property theorems (statements fixed by the architect; do not weaken).
Helper lemmas: PeroVerif/Lemmas/MergeEngines.lean.
-/
import Mathlib.Order.Basic
import PeroVerif.Model.MergeEngines
import PeroVerif.Lemmas.MergeEngines

namespace C19
open ME
variable {Q T L K G : Type} [LinearOrder Q]

def ltB (a b : Q) : Bool := decide (a < b)

/-- Index of the first engine attaining the maximum confidence. -/
def IsFirstMax (cs : List Q) (j : ℕ) : Prop :=
  ∃ hj : j < cs.length, (∀ i (hi : i < cs.length), cs[i] ≤ cs[j]) ∧ (∀ i (hi : i < j), cs[i]'(by omega) < cs[j])

theorem ltB_iff (a b : Q) : ltB a b = true ↔ a < b := by
  simp [ltB]

/-- If some engine has positive confidence, text, logits, character table and the recorded
confidence all come from the SAME engine: the first one attaining the maximum. -/
theorem merge_picks_first_max (zero : Q) (engines : List (Line Q T L K G × Q)) (j : ℕ)
    (hj : IsFirstMax (engines.map (·.2)) j) (hpos : zero < (engines.map (·.2)).getD j zero) :
    ∃ (m : Line Q T L K G) (e : Line Q T L K G × Q),
      mergeLine ltB zero engines = some m ∧ engines[j]? = some e ∧
      m.text = e.1.text ∧ m.logits = e.1.logits ∧ m.chars = e.1.chars ∧ m.tconf = some e.2 := by
  obtain ⟨hjl, hmax, hfirst⟩ := hj
  simp only [List.length_map, List.getElem_map] at hjl hmax hfirst
  have hpos' : zero < engines[j].2 := by
    simpa [List.getD_eq_getElem?_getD, List.getElem?_eq_getElem hjl] using hpos
  cases engines with
  | nil => simp at hjl
  | cons e0 rest =>
    refine ⟨_, _, rfl, List.getElem?_eq_getElem hjl, ?_⟩
    rw [foldl_mergeStep_first_max ltB ltB_iff (e0 :: rest) (zero, e0.1) j hjl hmax hfirst hpos']
    exact ⟨rfl, rfl, rfl, rfl⟩

/-- If no engine has positive confidence the line keeps the first layout's fields untouched. -/
theorem merge_none_positive (zero : Q) (e0 : Line Q T L K G × Q) (rest : List (Line Q T L K G × Q))
    (h : ∀ e ∈ e0 :: rest, e.2 ≤ zero) :
    mergeLine ltB zero (e0 :: rest) = some e0.1 := by
  show some ((e0 :: rest).foldl (mergeStep ltB) (zero, e0.1)).2 = some e0.1
  rw [foldl_no_improve ltB ltB_iff (e0 :: rest) (zero, e0.1) h]

/-- Ids and geometry are those of the first layout, always. -/
theorem merge_ids_geometry (zero : Q) (e0 : Line Q T L K G × Q) (rest : List (Line Q T L K G × Q)) :
    ∃ m, mergeLine ltB zero (e0 :: rest) = some m ∧ m.id = e0.1.id ∧ m.geom = e0.1.geom := by
  refine ⟨_, rfl, ?_⟩
  rcases foldl_mergeStep ltB ltB_iff (e0 :: rest) (zero, e0.1) with ⟨_, heq⟩ | ⟨_, _, _, _, _, _, _, heq⟩ <;>
    rw [heq] <;> exact ⟨rfl, rfl⟩

/-- Merging a result with (copies of) itself changes nothing but the recorded confidence. -/
theorem merge_self (zero : Q) (l : Line Q T L K G) (c : Q) (n : ℕ) :
    ∃ m, mergeLine ltB zero (List.replicate (n + 1) (l, c)) = some m ∧
      m.id = l.id ∧ m.geom = l.geom ∧ m.text = l.text ∧ m.logits = l.logits ∧ m.chars = l.chars ∧
      m.tconf = (if zero < c then some c else l.tconf) := by
  refine ⟨_, rfl, ?_⟩
  rcases foldl_mergeStep ltB ltB_iff (List.replicate (n + 1) (l, c)) (zero, l) with
    ⟨hle, heq⟩ | ⟨_, e, _, hes, _, _, hpos, heq⟩ <;> rw [heq]
  · have : ¬ zero < c := not_lt.2 (hle (l, c) (by simp))
    simp [this]
  · have : e ∈ List.replicate (n + 1) (l, c) := by simp [hes]
    obtain rfl := List.eq_of_mem_replicate this
    simp [adopt, show zero < c from hpos]

/-- A single layout is returned as it is (up to the recorded confidence). -/
theorem merge_single (zero : Q) (l : Line Q T L K G) (c : Q) :
    mergeLine ltB zero [(l, c)] = some (if zero < c then { l with tconf := some c } else l) := by
  show some (mergeStep ltB (zero, l) (l, c)).2 = _
  by_cases hc : zero < c
  · rw [mergeStep_of_lt ltB ltB_iff (zero, l) (l, c) hc, if_pos hc]
    rfl
  · rw [mergeStep_of_le ltB ltB_iff (zero, l) (l, c) (not_lt.mp hc), if_neg hc]


/-- Chained merging (a merged layout goes through the merger again, together with further engines): it gives exactly the
line that merging all engines at once gives.  The merged line is presented with the confidence of the content it carries
(`get_confidences` is a function of text, logits and character table): the running maximum if some engine was positive,
otherwise the first engine's own confidence. -/
theorem merge_chain (zero : Q) (e0 : Line Q T L K G × Q) (pre post : List (Line Q T L K G × Q)) :
    let st := (e0 :: pre).foldl (mergeStep ltB) (zero, e0.1)
    let cm := if zero < st.1 then st.1 else e0.2
    mergeLine ltB zero ((st.2, cm) :: post) = mergeLine ltB zero (e0 :: pre ++ post) := by
  intro st cm
  show some (((st.2, cm) :: post).foldl (mergeStep ltB) (zero, st.2)).2 =
    some ((e0 :: (pre ++ post)).foldl (mergeStep ltB) (zero, e0.1)).2
  rw [List.foldl_cons, (mergeStep_restart ltB ltB_iff zero e0 pre).1, ← List.cons_append, List.foldl_append]

/-- In particular merging a merged layout with itself changes nothing at all (not even the recorded confidence). -/
theorem merge_chain_self (zero : Q) (e0 : Line Q T L K G × Q) (pre : List (Line Q T L K G × Q)) (n : ℕ) :
    let st := (e0 :: pre).foldl (mergeStep ltB) (zero, e0.1)
    let cm := if zero < st.1 then st.1 else e0.2
    mergeLine ltB zero (List.replicate (n + 1) (st.2, cm)) = mergeLine ltB zero (e0 :: pre) := by
  intro st cm
  obtain ⟨hstep, hcm⟩ := mergeStep_restart ltB ltB_iff zero e0 pre
  show some ((List.replicate (n + 1) (st.2, cm)).foldl (mergeStep ltB) (zero, st.2)).2 = some st.2
  rw [List.replicate_succ, List.foldl_cons, hstep, foldl_no_improve ltB ltB_iff]
  intro e he
  rw [List.eq_of_mem_replicate he]
  exact hcm

end C19
