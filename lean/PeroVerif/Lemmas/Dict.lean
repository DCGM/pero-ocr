/-
Lemmas about `Py.Dict` (insertion-ordered association list): what `set` does to `get?` and to the key list, lookup in a
dict built by a fold of `set`s (the last pair with a key wins), and a dict rebuilt from its own pairs.  Core Lean only.
-/
import PeroVerif.Py.Dict

namespace Py.Dict
variable {κ ν : Type} [DecidableEq κ]

@[simp] theorem get?_nil (k : κ) : get? ([] : Dict κ ν) k = none := rfl

theorem get?_cons (k' : κ) (v : ν) (r : Dict κ ν) (k : κ) :
    get? ((k', v) :: r) k = if k' = k then some v else get? r k := rfl

theorem get?_set_self (d : Dict κ ν) (k : κ) (v : ν) : get? (set d k v) k = some v := by
  induction d with
  | nil => simp [set, get?]
  | cons p r ih =>
    obtain ⟨k', v'⟩ := p
    by_cases h : k' = k
    · simp [set, get?, h]
    · simp [set, get?, h, ih]

theorem get?_set_ne (d : Dict κ ν) (k k' : κ) (v : ν) (h : k' ≠ k) :
    get? (set d k' v) k = get? d k := by
  induction d with
  | nil => simp [set, get?, h]
  | cons p r ih =>
    obtain ⟨k'', v''⟩ := p
    by_cases h2 : k'' = k'
    · subst h2; simp [set, get?, h]
    · simp only [set, h2, if_false, get?, ih]

theorem get?_set (d : Dict κ ν) (k k' : κ) (v : ν) :
    get? (set d k' v) k = if k' = k then some v else get? d k := by
  by_cases h : k' = k
  · subst h; simp [get?_set_self]
  · simp [h, get?_set_ne _ _ _ _ h]

/-- `get?` on a mapped dict whose keys are preserved -/
theorem get?_map_val {μ : Type} (d : Dict κ ν) (f : κ × ν → μ) (k : κ) :
    get? (d.map fun kv => (kv.1, f kv)) k = none ↔ get? d k = none := by
  induction d with
  | nil => simp [get?]
  | cons p r ih =>
    obtain ⟨k', v'⟩ := p
    by_cases h : k' = k <;> simp [get?, h, ih]

theorem get?_eq_none_iff (d : Dict κ ν) (k : κ) : get? d k = none ↔ k ∉ d.map (·.1) := by
  induction d with
  | nil => simp [get?]
  | cons p r ih =>
    obtain ⟨k', v'⟩ := p
    by_cases h : k' = k
    · simp [get?, h]
    · have h' : ¬ k = k' := fun e => h e.symm
      simp [get?, h, h', ih]

/-- later `set`s of other keys do not affect `get?` -/
theorem get?_foldl_set_not_mem (ps : List (κ × ν)) (acc : Dict κ ν) (k : κ)
    (h : k ∉ ps.map (·.1)) :
    get? (ps.foldl (fun d p => set d p.1 p.2) acc) k = get? acc k := by
  induction ps generalizing acc with
  | nil => rfl
  | cons p r ih =>
    simp only [List.map_cons, List.mem_cons, not_or] at h
    simp only [List.foldl_cons]
    rw [ih _ h.2, get?_set_ne _ _ _ _ (fun e => h.1 e.symm)]

/-- general form: the LAST pair with key `k` wins; otherwise the accumulator decides -/
theorem get?_foldl_set (ps : List (κ × ν)) (acc : Dict κ ν) (k : κ) :
    get? (ps.foldl (fun d p => set d p.1 p.2) acc) k =
      match ps.reverse.find? (fun p => p.1 = k) with
      | some p => some p.2
      | none => get? acc k := by
  induction ps generalizing acc with
  | nil => rfl
  | cons p r ih =>
    simp only [List.foldl_cons, List.reverse_cons, List.find?_append]
    rw [ih]
    cases hf : r.reverse.find? (fun p => p.1 = k) with
    | some q => simp
    | none =>
      by_cases hk : p.1 = k
      · simp [List.find?, hk, get?_set]
      · simp [List.find?, hk, get?_set]

theorem get?_foldl_set_mem_nodup (ps : List (κ × ν)) (acc : Dict κ ν) (k : κ) (v : ν)
    (hnd : (ps.map (·.1)).Nodup) (hm : (k, v) ∈ ps) :
    get? (ps.foldl (fun d p => set d p.1 p.2) acc) k = some v := by
  induction ps generalizing acc with
  | nil => cases hm
  | cons p r ih =>
    simp only [List.map_cons, List.nodup_cons] at hnd
    simp only [List.foldl_cons]
    rcases List.mem_cons.1 hm with e | hr
    · subst e
      rw [get?_foldl_set_not_mem _ _ _ hnd.1, get?_set_self]
    · exact ih _ hnd.2 hr

/-! ### keys -/

theorem set_cons (x : κ × ν) (d : Dict κ ν) (k : κ) (v : ν) :
    set (x :: d) k v = if x.1 = k then (x.1, v) :: d else x :: set d k v := rfl

omit [DecidableEq κ] in
theorem keys_cons (x : κ × ν) (d : Dict κ ν) : keys (x :: d) = x.1 :: keys d := rfl

/-- `set` keeps every key and adds at most `k` -/
theorem mem_keys_set (d : Dict κ ν) (k : κ) (v : ν) (a : κ) :
    a ∈ keys (set d k v) ↔ a ∈ keys d ∨ a = k := by
  induction d with
  | nil => simp [set, keys]
  | cons x d ih =>
    rw [set_cons]
    split
    · subst k; simp only [keys_cons, List.mem_cons, or_comm, or_self_left]
    · simp only [keys_cons, List.mem_cons, ih, or_assoc]

/-! ### a dict rebuilt by inserting its own pairs -/

theorem set_append_new (d : Dict κ ν) (k : κ) (v : ν) (h : k ∉ d.map (·.1)) :
    set d k v = d ++ [(k, v)] := by
  induction d with
  | nil => rfl
  | cons kv d ih =>
    obtain ⟨k', v'⟩ := kv
    simp only [List.map_cons, List.mem_cons, not_or] at h
    simp [set, Ne.symm h.1, ih h.2]

theorem foldl_set_append (l acc : Dict κ ν) (hnd : (l.map (·.1)).Nodup)
    (hdis : ∀ k ∈ l.map (·.1), k ∉ acc.map (·.1)) :
    l.foldl (fun d kv => set d kv.1 kv.2) acc = acc ++ l := by
  induction l generalizing acc with
  | nil => simp
  | cons kv l ih =>
    simp only [List.map_cons, List.nodup_cons] at hnd
    rw [List.foldl_cons, set_append_new _ _ _ (hdis kv.1 (by simp)), ih _ hnd.2]
    · simp
    · intro k hk
      simp only [List.map_append, List.map_cons, List.map_nil, List.mem_append, List.mem_singleton, not_or]
      refine ⟨hdis k (by simp [hk]), ?_⟩
      rintro rfl; exact hnd.1 hk

end Py.Dict
