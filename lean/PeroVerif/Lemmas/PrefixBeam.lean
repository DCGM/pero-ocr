/-
Lemmas for C02, over an ordered commutative semiring.

A beam with pairwise distinct transcripts is read as a finitely supported map
`transcript ↦ (Pb, Pnb)` (`bOf`, `nbOf`).  One frame of the decoder is then one step of the textbook
CTC prefix recursion on such maps (`nextB`, `nextNB`), followed by the cut: `pos_val`, `step_val`,
`step_complete`.  That the beam never exceeds the path sums, is exact when nothing is pruned and never
dies (`step_bd`, `step_exact`, `step_alive`) are three readings of that one fact; prefix joining is
dealt with once, in `join_pnb`.
-/
import Mathlib.Algebra.Order.Ring.Defs
import Mathlib.Data.List.Nodup
import Mathlib.Data.List.Perm.Subperm
import PeroVerif.Spec.CtcMass
import PeroVerif.Lemmas.CtcMass
import PeroVerif.Lemmas.Step

set_option linter.unusedSectionVars false

namespace PB

variable {R : Type} [CommSemiring R] [LinearOrder R]
variable {H : Type}

/-! ### the operations record of a semiring -/

@[simp] theorem of_zero : (Ops.of R).zero = 0 := rfl
@[simp] theorem of_one : (Ops.of R).one = 1 := rfl
@[simp] theorem of_add (a b : R) : (Ops.of R).add a b = a + b := rfl
@[simp] theorem of_mul (a b : R) : (Ops.of R).mul a b = a * b := rfl
@[simp] theorem of_lt (a b : R) : (Ops.of R).lt a b = decide (a < b) := rfl

/-- `C02.BeamOK`, stated here because `Props/C02.lean` imports this file. -/
def OK (beam : List (Entry H R)) : Prop :=
  (beam.map (·.pre)).Nodup ∧ ∀ e ∈ beam, e.pre ≠ [] → e.pre.getLast? = some e.last

/-! ### normalisation check -/

theorem rowSum_eq (row : List R) : rowSum (Ops.of R) row = row.sum := List.sum_eq_foldl.symm

theorem unnormalised_iff (tol : R) (M : List (List R)) :
    unnormalised (Ops.of R) tol M = true ↔
      ∃ row ∈ M, 1 + tol < row.sum ∨ row.sum + tol < 1 := by
  unfold unnormalised
  simp [rowSum_eq]

theorem reject_unnormalised (lm : LM H R) (sel : R → Bool) (k : ℕ)
    (choose : ℕ → List (Entry H R) → List (Entry H R)) (tol : R) (h0 : H) (modelEos : Bool)
    (M : List (List R)) (row : List R) (hrow : row ∈ M)
    (hdev : 1 + tol < row.sum ∨ row.sum + tol < 1) :
    ∃ e, decode (Ops.of R) lm sel k choose tol h0 modelEos M = .error e := by
  refine ⟨.reject, ?_⟩
  unfold decode decodeBeam
  rw [if_pos ((unnormalised_iff tol M).mpr ⟨row, hrow, hdev⟩)]
  rfl

/-! ### the beam invariant; candidates with a positive score have distinct transcripts -/

theorem OK.pre_eq {beam : List (Entry H R)} (hb : OK beam) {q : Entry H R} (hq : q ∈ beam)
    (hne : q.pre ≠ []) : q.pre.dropLast ++ [q.last] = q.pre :=
  List.dropLast_append_getLast? _ (hb.2 q hq hne)

theorem OK.eq_of_pre_eq {beam : List (Entry H R)} (hb : OK beam) {a b : Entry H R}
    (ha : a ∈ beam) (hb' : b ∈ beam) (h : a.pre = b.pre) : a = b :=
  ListAux.eq_of_nodup_map _ hb.1 ha hb' h

theorem OK.last_eq {beam : List (Entry H R)} (hb : OK beam) {q : Entry H R} (hq : q ∈ beam)
    {ℓ : List ℕ} {c : ℕ} (hp : q.pre = ℓ ++ [c]) : q.last = c := by
  have := hb.2 q hq (by rw [hp]; simp)
  rw [hp] at this
  simpa using this.symm

theorem init_OK (h0 : H) : OK (init (Ops.of R) h0) := by
  simp [OK, init]

/-- the candidates with a positive score: what the beam cut chooses from -/
abbrev posCands (lm : LM H R) (S : List ℕ) (beam : List (Entry H R)) (row : List R) :
    List (Entry H R) :=
  (candidates (Ops.of R) lm S beam row).filter fun c => (Ops.of R).lt 0 (score (Ops.of R) c)

theorem step_eq_cut {sel : R → Bool} {row : List R} (h : selected (Ops.of R) sel row ≠ [])
    (lm : LM H R) (k : ℕ) (choose : ℕ → List (Entry H R) → List (Entry H R))
    (beam : List (Entry H R)) :
    step (Ops.of R) lm sel k choose beam row =
      choose (min k (posCands lm (selected (Ops.of R) sel row) beam row).length)
        (posCands lm (selected (Ops.of R) sel row) beam row) :=
  step_of_ne_nil h lm k choose beam

theorem extJ_absorbed {S : List ℕ} {beam : List (Entry H R)} {row : List R} (hb : OK beam)
    {e q : Entry H R} {c : ℕ} (hq : q ∈ beam) (hpre : q.pre = e.pre ++ [c]) (hc : c ∈ S) :
    extJ (Ops.of R) S beam row e c = 0 := by
  unfold extJ
  rw [if_pos]
  · rfl
  rw [List.any_eq_true]
  refine ⟨q, hq, ?_⟩
  rw [Bool.and_eq_true, absorbs_iff, hb.last_eq hq hpre, hpre]
  simpa using hc

theorem extJ_not_absorbed {S : List ℕ} {beam : List (Entry H R)} {row : List R}
    {e : Entry H R} {c : ℕ} (hb : OK beam) (h : ∀ q ∈ beam, q.pre ≠ e.pre ++ [c]) :
    extJ (Ops.of R) S beam row e c = ext (Ops.of R) row e c := by
  unfold extJ
  rw [if_neg]
  rw [List.any_eq_true]
  rintro ⟨q, hq, hq'⟩
  rw [Bool.and_eq_true, absorbs_iff] at hq'
  obtain ⟨⟨h1, h2, h3⟩, _⟩ := hq'
  apply h q hq
  rw [← hb.pre_eq hq h1, h2, h3]

theorem extJ_cases (S : List ℕ) (beam : List (Entry H R)) (row : List R) (e : Entry H R) (c : ℕ) :
    extJ (Ops.of R) S beam row e c = 0 ∨
      extJ (Ops.of R) S beam row e c = ext (Ops.of R) row e c := by
  unfold extJ
  split
  · exact Or.inl rfl
  · exact Or.inr rfl

/-- transcripts of the positive candidates generated by one beam entry -/
theorem mem_block {lm : LM H R} {S : List ℕ} {beam : List (Entry H R)} {row : List R}
    {e : Entry H R} {x : List ℕ} :
    x ∈ (((S.map (extC (Ops.of R) lm S beam row e)) ++ [stayC (Ops.of R) S beam row e]).filter
        fun c => (Ops.of R).lt 0 (score (Ops.of R) c)).map (·.pre) →
      (∃ c ∈ S, x = e.pre ++ [c] ∧ extJ (Ops.of R) S beam row e c ≠ 0) ∨ x = e.pre := by
  simp only [List.mem_map, List.mem_filter, List.mem_append, List.mem_singleton]
  rintro ⟨y, ⟨⟨c, hc, rfl⟩ | rfl, hy⟩, rfl⟩
  · left
    refine ⟨c, hc, rfl, ?_⟩
    intro h0
    simp [score, extC, h0] at hy
  · right
    rfl

/-- An extension that collides with a beam entry has been emptied by the joining, so among the
candidates with a positive score no transcript occurs twice. -/
theorem pos_pre_nodup (lm : LM H R) (S : List ℕ) (hS : S.Nodup) (beam : List (Entry H R))
    (row : List R) (hb : OK beam) : ((posCands lm S beam row).map (·.pre)).Nodup := by
  rw [posCands, candidates_eq, List.filter_flatMap, List.map_flatMap, List.nodup_flatMap]
  constructor
  · intro e _
    apply List.Nodup.sublist (List.filter_sublist.map _)
    rw [List.map_append, List.map_map]
    have : ((fun x : Entry H R => x.pre) ∘ extC (Ops.of R) lm S beam row e) =
        fun c => e.pre ++ [c] := rfl
    rw [this]
    rw [List.nodup_append]
    refine ⟨?_, by simp [stayC], ?_⟩
    · apply List.Nodup.map _ hS
      intro a b h
      simpa using h
    · intro a ha b hb'
      simp only [List.mem_map] at ha
      obtain ⟨c, _, rfl⟩ := ha
      simp only [stayC, List.map_cons, List.map_nil, List.mem_singleton] at hb'
      subst hb'
      simp
  · apply List.Pairwise.imp_of_mem _ (List.pairwise_map.mp hb.1)
    intro a b ha hb' hne
    show List.Disjoint _ _
    intro x hxa hxb
    rcases mem_block hxa with ⟨c, hc, rfl, h0⟩ | rfl <;>
      rcases mem_block hxb with ⟨c', hc', h1, h0'⟩ | h1
    · exact hne (List.append_inj' h1 rfl).1
    · exact h0 (extJ_absorbed hb hb' h1.symm hc)
    · exact h0' (extJ_absorbed hb ha h1 hc')
    · exact hne h1

theorem step_OK (lm : LM H R) (sel : R → Bool) (k : ℕ)
    {choose : ℕ → List (Entry H R) → List (Entry H R)} (hsub : ∀ k l, (choose k l).Subperm l)
    {beam : List (Entry H R)} (hb : OK beam) (row : List R) :
    OK (step (Ops.of R) lm sel k choose beam row) := by
  constructor
  · by_cases hS : selected (Ops.of R) sel row = []
    · rw [step_of_nil hS, List.map_map]
      exact hb.1
    · rw [step_eq_cut hS]
      obtain ⟨l', hl', hsub'⟩ := hsub (min k (posCands lm (selected (Ops.of R) sel row) beam row).length)
        (posCands lm (selected (Ops.of R) sel row) beam row)
      exact (hl'.map _).nodup_iff.mp ((hsub'.map _).nodup
        (pos_pre_nodup lm _ (nodup_selected _ sel row) beam row hb))
  · intro x hx
    obtain ⟨e, he, ⟨pb, pnb, rfl⟩ | ⟨c, pnb, rfl⟩⟩ :=
      mem_step_cases (fun k l e h => (hsub k l).subset h) hx
    · exact hb.2 e he
    · intro _; simp

/-! ### sums over the items of one transcript -/

theorem sum_filter_map {β : Type} (l : List β) (p : β → Bool) (g : β → R) :
    ((l.filter p).map g).sum = (l.map fun x => if p x then g x else 0).sum := by
  induction l with
  | nil => simp
  | cons a l ih => by_cases h : p a <;> simp [h, ih]

theorem sum_filter_flatMap {α β : Type} (l : List α) (f : α → List β) (p : β → Bool)
    (g : β → R) :
    (((l.flatMap f).filter p).map g).sum =
      (l.map fun a => ((f a).map fun x => if p x then g x else 0).sum).sum := by
  induction l with
  | nil => simp
  | cons a l ih =>
    rw [List.flatMap_cons, List.filter_append, List.map_append, List.sum_append, ih,
      sum_filter_map]
    simp

/-- value of `F` at the beam entry with transcript `ℓ` (0 if there is none) -/
def lookupVal (beam : List (Entry H R)) (ℓ : List ℕ) (F : Entry H R → R) : R :=
  match beam.find? (fun e => e.pre == ℓ) with
  | some e => F e
  | none => 0

/-- The one way `lookupVal` is analysed. -/
theorem lookupVal_cases (beam : List (Entry H R)) (ℓ : List ℕ) :
    (∃ e ∈ beam, e.pre = ℓ ∧ ∀ F : Entry H R → R, lookupVal beam ℓ F = F e) ∨
      ((∀ e ∈ beam, e.pre ≠ ℓ) ∧ ∀ F : Entry H R → R, lookupVal beam ℓ F = 0) := by
  unfold lookupVal
  cases hf : beam.find? (fun e => e.pre == ℓ) with
  | none =>
    exact Or.inr ⟨fun e he => by simpa using List.find?_eq_none.mp hf e he, fun _ => rfl⟩
  | some e =>
    exact Or.inl ⟨e, List.mem_of_find?_eq_some hf, by simpa using List.find?_some hf, fun _ => rfl⟩

theorem lookupVal_some {beam : List (Entry H R)} (hnd : (beam.map (·.pre)).Nodup)
    {q : Entry H R} (hq : q ∈ beam) (F : Entry H R → R) : lookupVal beam q.pre F = F q := by
  rcases lookupVal_cases beam q.pre with ⟨e, he, hp, h⟩ | ⟨hn, _⟩
  · rw [h, ListAux.eq_of_nodup_map _ hnd he hq hp]
  · exact absurd rfl (hn q hq)

theorem sum_lookup {beam : List (Entry H R)} (hnd : (beam.map (·.pre)).Nodup) (ℓ : List ℕ)
    (F : Entry H R → R) :
    (beam.map fun e => if e.pre = ℓ then F e else 0).sum = lookupVal beam ℓ F := by
  unfold lookupVal
  induction beam with
  | nil => simp
  | cons a l ih =>
    rw [List.map_cons, List.nodup_cons] at hnd
    rw [List.map_cons, List.sum_cons, List.find?_cons]
    by_cases h : a.pre = ℓ
    · have hz : (l.map fun e => if e.pre = ℓ then F e else 0).sum = 0 := by
        apply List.sum_eq_zero
        intro x hx
        obtain ⟨e, he, rfl⟩ := List.mem_map.mp hx
        refine if_neg fun h' : e.pre = ℓ => hnd.1 ?_
        rw [h, ← h']
        exact List.mem_map_of_mem he
      simp [h, hz]
    · have h' : (a.pre == ℓ) = false := by simpa using h
      rw [if_neg h, zero_add, h', ih hnd.2]

/-- grouped sum of contributions to transcript `ℓ`: extension values `X`, stay values `Y` -/
def grp (S : List ℕ) (beam : List (Entry H R)) (ℓ : List ℕ) (X : Entry H R → ℕ → R)
    (Y : Entry H R → R) : R :=
  (beam.map fun e =>
    (S.map fun c => if e.pre ++ [c] = ℓ then X e c else 0).sum +
      (if e.pre = ℓ then Y e else 0)).sum

/-- One frame's worth of items, `f e c` at transcript `e.pre ++ [c]` and `s e` at `e.pre` (the
candidates; the raw contributions of `C02.rawContrib`), summed at `ℓ`. -/
theorem sum_frame {α : Type} (S : List ℕ) (beam : List (Entry H R)) (f : Entry H R → ℕ → α)
    (s : Entry H R → α) (pre : α → List ℕ) (hf : ∀ e c, pre (f e c) = e.pre ++ [c])
    (hs : ∀ e, pre (s e) = e.pre) (ℓ : List ℕ) (g : α → R) :
    (((beam.flatMap fun e => S.map (f e) ++ [s e]).filter fun x => pre x = ℓ).map g).sum =
      grp S beam ℓ (fun e c => g (f e c)) (fun e => g (s e)) := by
  rw [sum_filter_flatMap]
  unfold grp
  congr 1
  apply List.map_congr_left
  intro e _
  simp only [List.map_append, List.sum_append, List.map_map, Function.comp_def, hf, hs,
    List.map_cons, List.map_nil, List.sum_cons, List.sum_nil, add_zero, decide_eq_true_eq]

theorem cands_sum (lm : LM H R) (S : List ℕ) (beam : List (Entry H R)) (row : List R)
    (ℓ : List ℕ) (g : Entry H R → R) :
    (((candidates (Ops.of R) lm S beam row).filter fun c => c.pre = ℓ).map g).sum =
      grp S beam ℓ (fun e c => g (extC (Ops.of R) lm S beam row e c))
        (fun e => g (stayC (Ops.of R) S beam row e)) :=
  sum_frame S beam (extC (Ops.of R) lm S beam row) (stayC (Ops.of R) S beam row) (·.pre)
    (fun _ _ => rfl) (fun _ => rfl) ℓ g

theorem grp_nil {S : List ℕ} {beam : List (Entry H R)} (hnd : (beam.map (·.pre)).Nodup)
    (X : Entry H R → ℕ → R) (Y : Entry H R → R) :
    grp S beam [] X Y = lookupVal beam [] Y := by
  unfold grp
  rw [← sum_lookup hnd]
  congr 1
  apply List.map_congr_left
  intro e _
  rw [List.sum_eq_zero, zero_add]
  intro x hx
  obtain ⟨c, _, rfl⟩ := List.mem_map.mp hx
  simp

theorem grp_snoc {S : List ℕ} (hS : S.Nodup) {beam : List (Entry H R)}
    (hnd : (beam.map (·.pre)).Nodup) (ℓ' : List ℕ) (c0 : ℕ)
    (X : Entry H R → ℕ → R) (Y : Entry H R → R) :
    grp S beam (ℓ' ++ [c0]) X Y =
      (if c0 ∈ S then lookupVal beam ℓ' (fun e => X e c0) else 0) +
        lookupVal beam (ℓ' ++ [c0]) Y := by
  unfold grp
  rw [List.sum_map_add, sum_lookup hnd]
  congr 1
  have : ∀ e : Entry H R, (S.map fun c => if e.pre ++ [c] = ℓ' ++ [c0] then X e c else 0).sum =
      if e.pre = ℓ' then (if c0 ∈ S then X e c0 else 0) else 0 := by
    intro e
    by_cases h : e.pre = ℓ'
    · rw [if_pos h, ← Ctc.sum_map_ite_eq_of_nodup hS c0 (X e)]
      congr 1
      apply List.map_congr_left
      intro c _
      simp [h]
    · rw [if_neg h]
      apply List.sum_eq_zero
      intro x hx
      obtain ⟨c, _, rfl⟩ := List.mem_map.mp hx
      exact if_neg fun h' : e.pre ++ [c] = ℓ' ++ [c0] => h (List.append_inj' h' rfl).1
  simp only [this]
  rw [sum_lookup hnd]
  rcases lookupVal_cases beam ℓ' with ⟨_, _, _, h⟩ | ⟨_, h⟩ <;> rw [h, h]
  exact (ite_self _).symm

/-! ### normal forms of `ext` and `stayPnb`; non-negativity -/

section Ordered
variable [IsStrictOrderedRing R]

theorem rowAt_nonneg {row : List R} (hrow : ∀ x ∈ row, 0 ≤ x) (c : ℕ) :
    0 ≤ rowAt (Ops.of R) row c := Ctc.getD_nonneg hrow c

theorem blankP_nonneg {row : List R} (hrow : ∀ x ∈ row, 0 ≤ x) :
    0 ≤ blankP (Ops.of R) row := Ctc.getD_nonneg hrow _

theorem lookupVal_nonneg {beam : List (Entry H R)} {ℓ : List ℕ} {F : Entry H R → R}
    (h : ∀ e ∈ beam, 0 ≤ F e) : 0 ≤ lookupVal beam ℓ F := by
  rcases lookupVal_cases beam ℓ with ⟨e, he, _, h'⟩ | ⟨_, h'⟩ <;> rw [h']
  exact h e he

theorem lookupVal_le {beam : List (Entry H R)} {F : Entry H R → R} {G : List ℕ → R}
    (h : ∀ e ∈ beam, F e ≤ G e.pre) {ℓ : List ℕ} (h0 : 0 ≤ G ℓ) : lookupVal beam ℓ F ≤ G ℓ := by
  rcases lookupVal_cases beam ℓ with ⟨e, he, rfl, h'⟩ | ⟨_, h'⟩ <;> rw [h']
  exacts [h e he, h0]

/-- The code's test `c ≠ last` is the textbook's `ℓ` does not end in `c` (for the empty transcript,
where `last` is the arbitrary `0`, `pnb` vanishes). -/
theorem ext_form {beam : List (Entry H R)} (hb : OK beam) {e : Entry H R} (he : e ∈ beam)
    (hnil : e.pre = [] → e.pnb = 0) (row : List R) (c : ℕ) :
    ext (Ops.of R) row e c =
      (e.pb + if e.pre.getLast? = some c then 0 else e.pnb) * rowAt (Ops.of R) row c := by
  unfold ext
  simp only [of_add, of_mul, of_zero]
  by_cases hp : e.pre = []
  · rw [hp, hnil hp]
    simp
  · rw [hb.2 e he hp]
    by_cases hc : c = e.last
    · subst hc; simp
    · have : ¬ (some e.last = some c) := fun h => hc (Option.some.inj h).symm
      rw [if_neg hc, if_neg this, add_mul]

theorem ext_nonneg {e : Entry H R} (h1 : 0 ≤ e.pb) (h2 : 0 ≤ e.pnb) {row : List R}
    (hrow : ∀ x ∈ row, 0 ≤ x) (c : ℕ) : 0 ≤ ext (Ops.of R) row e c := by
  unfold ext
  simp only [of_add, of_mul, of_zero]
  have hr := rowAt_nonneg hrow c
  split
  · exact add_nonneg (mul_nonneg h1 hr) (le_refl _)
  · exact add_nonneg (mul_nonneg h1 hr) (mul_nonneg h2 hr)

theorem stayPnb_form (S : List ℕ) (beam : List (Entry H R)) (row : List R) (q : Entry H R) :
    stayPnb (Ops.of R) S beam row q =
      if q.last ∈ S then
        q.pnb * rowAt (Ops.of R) row q.last +
          (if q.pre = [] then 0 else
            lookupVal beam q.pre.dropLast (fun e => ext (Ops.of R) row e q.last))
      else 0 := by
  unfold stayPnb lookupVal
  simp only [of_add, of_mul, of_zero]
  by_cases hS : q.last ∈ S <;> by_cases hp : q.pre = [] <;>
    simp only [hS, hp, List.contains_eq_mem, decide_true, decide_false, if_true, if_false,
      Bool.false_eq_true, mul_zero, add_zero]
  all_goals cases beam.find? (fun e => e.pre == q.pre.dropLast) <;> simp

theorem stayPb_nonneg {e : Entry H R} (h1 : 0 ≤ e.pb) (h2 : 0 ≤ e.pnb) {row : List R}
    (hrow : ∀ x ∈ row, 0 ≤ x) : 0 ≤ stayPb (Ops.of R) row e :=
  mul_nonneg (add_nonneg h1 h2) (blankP_nonneg hrow)

theorem stayPnb_nonneg {beam : List (Entry H R)} (hnn : ∀ e ∈ beam, 0 ≤ e.pb ∧ 0 ≤ e.pnb)
    {row : List R} (hrow : ∀ x ∈ row, 0 ≤ x) (S : List ℕ) {q : Entry H R} (hq : q ∈ beam) :
    0 ≤ stayPnb (Ops.of R) S beam row q := by
  rw [stayPnb_form]
  split
  · apply add_nonneg (mul_nonneg (hnn q hq).2 (rowAt_nonneg hrow _))
    split
    · exact le_refl _
    · exact lookupVal_nonneg fun e he => ext_nonneg (hnn e he).1 (hnn e he).2 hrow _
  · exact le_refl _

theorem candidates_nonneg {beam : List (Entry H R)} (lm : LM H R) (S : List ℕ)
    (hnn : ∀ e ∈ beam, 0 ≤ e.pb ∧ 0 ≤ e.pnb) {row : List R} (hrow : ∀ x ∈ row, 0 ≤ x) :
    ∀ x ∈ candidates (Ops.of R) lm S beam row, 0 ≤ x.pb ∧ 0 ≤ x.pnb := by
  intro x hx
  obtain ⟨e, he, ⟨c, _, rfl⟩ | rfl⟩ := mem_candidates.mp hx
  · refine ⟨le_refl _, ?_⟩
    rcases extJ_cases S beam row e c with h | h
    · exact h.ge
    · exact (ext_nonneg (hnn e he).1 (hnn e he).2 hrow c).trans h.ge
  · exact ⟨stayPb_nonneg (hnn e he).1 (hnn e he).2 hrow, stayPnb_nonneg hnn hrow S he⟩

/-! ### joining is grouping -/

/-- Prefix joining only moves the extension `ext e c` from the extension candidate of `e` to the
stay candidate of the beam entry `q` with `q.pre = e.pre ++ [c]`, if there is one: summed per
transcript, the candidates carry the raw contributions. -/
theorem join_pnb (S : List ℕ) (hS : S.Nodup) {beam : List (Entry H R)} (hb : OK beam)
    (row : List R) (ℓ : List ℕ) :
    grp S beam ℓ (fun e c => extJ (Ops.of R) S beam row e c)
        (fun e => stayPnb (Ops.of R) S beam row e) =
      grp S beam ℓ (fun e c => ext (Ops.of R) row e c)
        (fun e => e.pnb * (if S.contains e.last then rowAt (Ops.of R) row e.last else 0)) := by
  rcases List.eq_nil_or_concat ℓ with rfl | ⟨ℓ', c0, rfl⟩
  · rw [grp_nil hb.1, grp_nil hb.1]
    rcases lookupVal_cases beam [] with ⟨e, _, hp, h⟩ | ⟨_, h⟩ <;> rw [h, h]
    rw [stayPnb_form]
    by_cases hl : e.last ∈ S <;> simp [hl, hp]
  · rw [List.concat_eq_append, grp_snoc hS hb.1, grp_snoc hS hb.1]
    rcases lookupVal_cases beam (ℓ' ++ [c0]) with ⟨q, hq, hqp, h⟩ | ⟨hn, h⟩ <;> rw [h, h]
    · -- `q` sits at `ℓ' ++ [c0]`: it absorbs the extension of the entry at `ℓ'`, if there is one
      have hne : q.pre ≠ [] := by rw [hqp]; simp
      rw [stayPnb_form, hb.last_eq hq hqp, if_neg hne, hqp, List.dropLast_concat]
      by_cases hc : c0 ∈ S
      · simp only [if_pos hc]
        rcases lookupVal_cases beam ℓ' with ⟨e, _, hep, h'⟩ | ⟨_, h'⟩ <;> rw [h', h']
        · rw [extJ_absorbed hb hq (by rw [hqp, hep]) hc]
          simp [hc, add_comm]
        · simp [hc]
      · simp [hc]
    · -- no entry at `ℓ' ++ [c0]`: the extension stands
      rw [add_zero, add_zero]
      split
      · rcases lookupVal_cases beam ℓ' with ⟨e, _, hep, h'⟩ | ⟨_, h'⟩ <;> rw [h', h']
        exact extJ_not_absorbed hb (by rw [hep]; exact hn)
      · rfl

/-! ### the textbook recursion on maps -/

/-- `Pb` / `Pnb` of the beam at transcript `ℓ` (0 where the beam has no entry). -/
abbrev bOf (beam : List (Entry H R)) (ℓ : List ℕ) : R := lookupVal beam ℓ (·.pb)
abbrev nbOf (beam : List (Entry H R)) (ℓ : List ℕ) : R := lookupVal beam ℓ (·.pnb)

def nextB (row : List R) (b nb : List ℕ → R) (ℓ : List ℕ) : R :=
  (b ℓ + nb ℓ) * blankP (Ops.of R) row

/-- What may be extended by `c`: everything ending in blank, and what ends in a symbol other than
`c`. -/
def extOf (b nb : List ℕ → R) (ℓ : List ℕ) (c : ℕ) : R :=
  b ℓ + if ℓ.getLast? = some c then 0 else nb ℓ

/-- Non-blank part, symbols restricted to `S`. -/
def nextNB (S : List ℕ) (row : List R) (b nb : List ℕ → R) (ℓ : List ℕ) : R :=
  match ℓ.getLast? with
  | none => 0
  | some c => if c ∈ S then (nb ℓ + extOf b nb ℓ.dropLast c) * rowAt (Ops.of R) row c else 0

theorem nextNB_nil (S : List ℕ) (row : List R) (b nb : List ℕ → R) : nextNB S row b nb [] = 0 := rfl

theorem nextNB_snoc (S : List ℕ) (row : List R) (b nb : List ℕ → R) (ℓ : List ℕ) (c : ℕ) :
    nextNB S row b nb (ℓ ++ [c]) =
      if c ∈ S then (nb (ℓ ++ [c]) + extOf b nb ℓ c) * rowAt (Ops.of R) row c else 0 := by
  simp [nextNB]

theorem nextNB_of_not_mem (S : List ℕ) (row : List R) (b nb : List ℕ → R) (ℓ : List ℕ)
    (h : ∀ c, ℓ.getLast? = some c → c ∉ S) : nextNB S row b nb ℓ = 0 := by
  unfold nextNB
  split
  · rfl
  · rename_i c hc
    rw [if_neg (h c hc)]

theorem extOf_mono {b nb b' nb' : List ℕ → R} (hb : ∀ ℓ, b ℓ ≤ b' ℓ) (hnb : ∀ ℓ, nb ℓ ≤ nb' ℓ)
    (ℓ : List ℕ) (c : ℕ) : extOf b nb ℓ c ≤ extOf b' nb' ℓ c := by
  unfold extOf
  split
  · exact add_le_add (hb ℓ) (le_refl _)
  · exact add_le_add (hb ℓ) (hnb ℓ)

theorem extOf_nonneg {b nb : List ℕ → R} (hb : ∀ ℓ, 0 ≤ b ℓ) (hnb : ∀ ℓ, 0 ≤ nb ℓ)
    (ℓ : List ℕ) (c : ℕ) : 0 ≤ extOf b nb ℓ c := by
  unfold extOf
  split
  · simpa using hb ℓ
  · exact add_nonneg (hb ℓ) (hnb ℓ)

variable {row : List R}

theorem nextB_nonneg (hrow : ∀ x ∈ row, 0 ≤ x) {b nb : List ℕ → R} (hb : ∀ ℓ, 0 ≤ b ℓ)
    (hnb : ∀ ℓ, 0 ≤ nb ℓ) (ℓ : List ℕ) : 0 ≤ nextB row b nb ℓ :=
  mul_nonneg (add_nonneg (hb ℓ) (hnb ℓ)) (blankP_nonneg hrow)

/-- The recursion is monotone in the map and in the set of admitted symbols. -/
theorem nextNB_mono (hrow : ∀ x ∈ row, 0 ≤ x) {S S' : List ℕ} (hS : ∀ c ∈ S, c ∈ S')
    {b nb b' nb' : List ℕ → R} (hb : ∀ ℓ, b ℓ ≤ b' ℓ) (hnb : ∀ ℓ, nb ℓ ≤ nb' ℓ)
    (hb' : ∀ ℓ, 0 ≤ b' ℓ) (hnb' : ∀ ℓ, 0 ≤ nb' ℓ) (ℓ : List ℕ) :
    nextNB S row b nb ℓ ≤ nextNB S' row b' nb' ℓ := by
  unfold nextNB
  split
  · exact le_refl _
  · rename_i c _
    have hr := rowAt_nonneg hrow c
    by_cases hc : c ∈ S
    · rw [if_pos hc, if_pos (hS c hc)]
      exact mul_le_mul_of_nonneg_right (add_le_add (hnb _) (extOf_mono hb hnb _ c)) hr
    · rw [if_neg hc]
      split
      · exact mul_nonneg (add_nonneg (hnb' _) (extOf_nonneg hb' hnb' _ c)) hr
      · exact le_refl _

theorem nextNB_nonneg (hrow : ∀ x ∈ row, 0 ≤ x) (S : List ℕ) {b nb : List ℕ → R}
    (hb : ∀ ℓ, 0 ≤ b ℓ) (hnb : ∀ ℓ, 0 ≤ nb ℓ) (ℓ : List ℕ) : 0 ≤ nextNB S row b nb ℓ :=
  (nextNB_of_not_mem [] row b nb ℓ (by simp)).ge.trans
    (nextNB_mono hrow (by simp) (fun _ => le_refl _) (fun _ => le_refl _) hb hnb ℓ)

/-- Symbols of probability 0 may be left out of the recursion. -/
theorem nextNB_subset {S S' : List ℕ} (hS : ∀ c ∈ S, c ∈ S')
    (h0 : ∀ c ∈ S', c ∉ S → rowAt (Ops.of R) row c = 0) (b nb : List ℕ → R) (ℓ : List ℕ) :
    nextNB S row b nb ℓ = nextNB S' row b nb ℓ := by
  unfold nextNB
  split
  · rfl
  · rename_i c _
    by_cases hc : c ∈ S
    · rw [if_pos hc, if_pos (hS c hc)]
    · rw [if_neg hc]
      by_cases hc' : c ∈ S'
      · rw [if_pos hc', h0 c hc' hc, mul_zero]
      · rw [if_neg hc']

/-- Where the map is positive somewhere and the row is alive, the next map is positive somewhere. -/
theorem next_pos (hrow : ∀ x ∈ row, 0 ≤ x) {S : List ℕ} {b nb : List ℕ → R} (hb : ∀ ℓ, 0 ≤ b ℓ)
    (hnb : ∀ ℓ, 0 ≤ nb ℓ)
    (ha : 0 < blankP (Ops.of R) row ∨ ∃ c ∈ S, 0 < rowAt (Ops.of R) row c) {ℓ : List ℕ}
    (hℓ : 0 < b ℓ + nb ℓ) : ∃ ℓ', 0 < nextB row b nb ℓ' + nextNB S row b nb ℓ' := by
  rcases ha with hbl | ⟨c, hc, hr⟩
  · exact ⟨ℓ, add_pos_of_pos_of_nonneg (mul_pos hℓ hbl) (nextNB_nonneg hrow S hb hnb ℓ)⟩
  · have hsnoc : ∀ ℓ₀ : List ℕ, 0 < nb (ℓ₀ ++ [c]) + extOf b nb ℓ₀ c →
        ∃ ℓ', 0 < nextB row b nb ℓ' + nextNB S row b nb ℓ' := fun ℓ₀ h =>
      ⟨ℓ₀ ++ [c], add_pos_of_nonneg_of_pos (nextB_nonneg hrow hb hnb _)
        (by rw [nextNB_snoc, if_pos hc]; exact mul_pos h hr)⟩
    by_cases hl : ℓ.getLast? = some c
    · -- the extension by `c` repeats the last symbol: only `b` extends, `nb` stays
      by_cases hpb : 0 < b ℓ
      · exact hsnoc ℓ (add_pos_of_nonneg_of_pos (hnb _) (by rwa [extOf, if_pos hl, add_zero]))
      · have hpnb : 0 < nb ℓ := by
          rwa [le_antisymm (not_lt.mp hpb) (hb ℓ), zero_add] at hℓ
        obtain ⟨ℓ₀, rfl⟩ : ∃ ℓ₀, ℓ = ℓ₀ ++ [c] := by
          rcases List.eq_nil_or_concat ℓ with rfl | ⟨ℓ₀, c', rfl⟩
          · simp at hl
          · exact ⟨ℓ₀, by simpa using hl⟩
        exact hsnoc ℓ₀ (add_pos_of_pos_of_nonneg hpnb (extOf_nonneg hb hnb _ c))
    · exact hsnoc ℓ (add_pos_of_nonneg_of_pos (hnb _) (by rwa [extOf, if_neg hl]))

/-! ### the candidates of one frame, read as a map -/

section Frame
variable {beam : List (Entry H R)}

theorem bOf_nonneg (hnn : ∀ e ∈ beam, 0 ≤ e.pb ∧ 0 ≤ e.pnb) (ℓ : List ℕ) : 0 ≤ bOf beam ℓ :=
  lookupVal_nonneg fun e he => (hnn e he).1

theorem nbOf_nonneg (hnn : ∀ e ∈ beam, 0 ≤ e.pb ∧ 0 ≤ e.pnb) (ℓ : List ℕ) : 0 ≤ nbOf beam ℓ :=
  lookupVal_nonneg fun e he => (hnn e he).2

theorem cands_pb (lm : LM H R) (S : List ℕ) (hS : S.Nodup) (hb : OK beam) (row : List R)
    (ℓ : List ℕ) :
    (((candidates (Ops.of R) lm S beam row).filter fun c => c.pre = ℓ).map (·.pb)).sum =
      nextB row (bOf beam) (nbOf beam) ℓ := by
  rw [cands_sum]
  have h1 : lookupVal beam ℓ (fun e => stayPb (Ops.of R) row e) =
      nextB row (bOf beam) (nbOf beam) ℓ := by
    unfold nextB bOf nbOf
    rcases lookupVal_cases beam ℓ with ⟨_, _, _, h⟩ | ⟨_, h⟩ <;> rw [h, h, h]
    · rfl
    · simp
  rcases List.eq_nil_or_concat ℓ with rfl | ⟨ℓ', c, rfl⟩
  · exact (grp_nil hb.1 _ _).trans h1
  · rw [List.concat_eq_append] at h1 ⊢
    refine (grp_snoc hS hb.1 ℓ' c _ _).trans ?_
    show (if c ∈ S then lookupVal beam ℓ' (fun _ => (0 : R)) else 0) + _ = _
    rcases lookupVal_cases beam ℓ' with ⟨_, _, _, h⟩ | ⟨_, h⟩ <;> rw [h, ite_self, zero_add] <;>
      exact h1

theorem cands_pnb (lm : LM H R) (S : List ℕ) (hS : S.Nodup) (hb : OK beam)
    (hnil : ∀ e ∈ beam, e.pre = [] → e.pnb = 0) (row : List R) (ℓ : List ℕ) :
    (((candidates (Ops.of R) lm S beam row).filter fun c => c.pre = ℓ).map (·.pnb)).sum =
      nextNB S row (bOf beam) (nbOf beam) ℓ := by
  rw [cands_sum]
  refine (join_pnb S hS hb row ℓ).trans ?_
  rcases List.eq_nil_or_concat ℓ with rfl | ⟨ℓ', c, rfl⟩
  · rw [grp_nil hb.1, nextNB_nil]
    rcases lookupVal_cases beam [] with ⟨e, he, hp, h⟩ | ⟨_, h⟩ <;> rw [h]
    rw [hnil e he hp, zero_mul]
  · rw [List.concat_eq_append, grp_snoc hS hb.1, nextNB_snoc]
    have h1 : lookupVal beam ℓ' (fun e => ext (Ops.of R) row e c) =
        extOf (bOf beam) (nbOf beam) ℓ' c * rowAt (Ops.of R) row c := by
      unfold extOf bOf nbOf
      rcases lookupVal_cases beam ℓ' with ⟨e, he, hp, h⟩ | ⟨_, h⟩ <;> rw [h, h, h]
      · rw [ext_form hb he (hnil e he), hp]
      · simp
    have h2 : lookupVal beam (ℓ' ++ [c])
        (fun e => e.pnb * (if S.contains e.last then rowAt (Ops.of R) row e.last else 0)) =
        if c ∈ S then nbOf beam (ℓ' ++ [c]) * rowAt (Ops.of R) row c else 0 := by
      unfold nbOf
      rcases lookupVal_cases beam (ℓ' ++ [c]) with ⟨e, he, hp, h⟩ | ⟨_, h⟩ <;> rw [h, h]
      · rw [hb.last_eq he hp]
        by_cases hc : c ∈ S <;> simp [hc]
      · simp
    rw [h1, h2]
    by_cases hc : c ∈ S <;> simp [hc, add_comm, add_mul]

/-- The positive candidates ARE the next map: distinct transcripts (`pos_pre_nodup`), and at every
transcript the value `nextB` / `nextNB` of the beam — no entry exactly where both vanish. -/
theorem pos_val (lm : LM H R) (S : List ℕ) (hS : S.Nodup) (hb : OK beam)
    (hnn : ∀ e ∈ beam, 0 ≤ e.pb ∧ 0 ≤ e.pnb) (hnil : ∀ e ∈ beam, e.pre = [] → e.pnb = 0)
    (hrow : ∀ x ∈ row, 0 ≤ x) (ℓ : List ℕ) :
    bOf (posCands lm S beam row) ℓ = nextB row (bOf beam) (nbOf beam) ℓ ∧
      nbOf (posCands lm S beam row) ℓ = nextNB S row (bOf beam) (nbOf beam) ℓ := by
  have hnd := pos_pre_nodup lm S hS beam row hb
  -- a candidate that is not positive carries nothing
  have hz : ∀ x ∈ candidates (Ops.of R) lm S beam row,
      ¬ (Ops.of R).lt 0 (score (Ops.of R) x) = true → x.pb = 0 ∧ x.pnb = 0 := by
    intro x hx hp
    obtain ⟨h1, h2⟩ := candidates_nonneg lm S hnn hrow x hx
    have h3 : x.pb + x.pnb ≤ 0 := by simpa [score] using hp
    exact ⟨le_antisymm (le_trans (le_add_of_nonneg_right h2) h3) h1,
      le_antisymm (le_trans (le_add_of_nonneg_left h1) h3) h2⟩
  have key : ∀ g : Entry H R → R,
      (∀ x ∈ candidates (Ops.of R) lm S beam row,
        ¬ (Ops.of R).lt 0 (score (Ops.of R) x) = true → g x = 0) →
      lookupVal (posCands lm S beam row) ℓ g =
        (((candidates (Ops.of R) lm S beam row).filter fun c => c.pre = ℓ).map g).sum := by
    intro g hg
    rw [← sum_lookup hnd, sum_filter_map, sum_filter_map]
    apply congrArg
    apply List.map_congr_left
    intro x hx
    by_cases hp : (Ops.of R).lt 0 (score (Ops.of R) x) = true
    · rw [if_pos hp]
      simp
    · rw [if_neg hp, hg x hx hp]
      simp
  exact ⟨(key _ fun x hx hp => (hz x hx hp).1).trans (cands_pb lm S hS hb row ℓ),
    (key _ fun x hx hp => (hz x hx hp).2).trans (cands_pnb lm S hS hb hnil row ℓ)⟩

/-- Every transcript at which the next map is positive has a positive candidate. -/
theorem pos_complete (lm : LM H R) (S : List ℕ) (hS : S.Nodup) (hb : OK beam)
    (hnn : ∀ e ∈ beam, 0 ≤ e.pb ∧ 0 ≤ e.pnb) (hnil : ∀ e ∈ beam, e.pre = [] → e.pnb = 0)
    (hrow : ∀ x ∈ row, 0 ≤ x) {ℓ : List ℕ}
    (hℓ : 0 < nextB row (bOf beam) (nbOf beam) ℓ + nextNB S row (bOf beam) (nbOf beam) ℓ) :
    ∃ x ∈ posCands lm S beam row, x.pre = ℓ := by
  obtain ⟨h1, h2⟩ := pos_val lm S hS hb hnn hnil hrow ℓ
  rw [← h1, ← h2] at hℓ
  rcases lookupVal_cases (posCands lm S beam row) ℓ with ⟨x, hx, hp, _⟩ | ⟨_, h⟩
  · exact ⟨x, hx, hp⟩
  · rw [bOf, nbOf, h, h, add_zero] at hℓ
    exact absurd hℓ (lt_irrefl _)

end Frame

/-! ### one frame of the decoder is one step of the recursion, cut

The cut enters only through what the proofs use of it: it returns a sub-multiset of what it is given
(`hsub`), of the requested size (`hlen`). -/

section Step
variable {beam : List (Entry H R)} (lm : LM H R) (sel : R → Bool) (k : ℕ)
  {choose : ℕ → List (Entry H R) → List (Entry H R)} (hsub : ∀ k l, (choose k l).Subperm l)
  (hb : OK beam) (hnn : ∀ e ∈ beam, 0 ≤ e.pb ∧ 0 ≤ e.pnb)
  (hnil : ∀ e ∈ beam, e.pre = [] → e.pnb = 0) (hrow : ∀ x ∈ row, 0 ≤ x)
include hsub hb hnn hnil hrow

/-- What the cut keeps carries the value of the next map at its transcript. -/
theorem step_val :
    ∀ x ∈ step (Ops.of R) lm sel k choose beam row,
      x.pb = nextB row (bOf beam) (nbOf beam) x.pre ∧
      x.pnb = nextNB (selected (Ops.of R) sel row) row (bOf beam) (nbOf beam) x.pre := by
  intro x hx
  by_cases hS : selected (Ops.of R) sel row = []
  · rw [step_of_nil hS] at hx
    obtain ⟨e, he, rfl⟩ := List.mem_map.mp hx
    refine ⟨?_, (nextNB_of_not_mem _ row _ _ _ (by simp [hS])).symm⟩
    unfold nextB bOf nbOf
    rw [lookupVal_some hb.1 he, lookupVal_some hb.1 he]
    rfl
  · rw [step_eq_cut hS] at hx
    have hx' := (hsub _ _).subset hx
    have hnd := pos_pre_nodup lm (selected (Ops.of R) sel row) (nodup_selected _ sel row) beam row hb
    have := pos_val lm (selected (Ops.of R) sel row) (nodup_selected _ sel row) hb hnn hnil hrow x.pre
    rwa [bOf, nbOf, lookupVal_some hnd hx', lookupVal_some hnd hx'] at this

/-- … and when nothing is cut, every transcript with a positive value is kept. -/
theorem step_complete (hlen : ∀ k l, (choose k l).length = min k l.length)
    (hnp : (posCands lm (selected (Ops.of R) sel row) beam row).length ≤ k) {ℓ : List ℕ}
    (hℓ : 0 < nextB row (bOf beam) (nbOf beam) ℓ +
      nextNB (selected (Ops.of R) sel row) row (bOf beam) (nbOf beam) ℓ) :
    ∃ x ∈ step (Ops.of R) lm sel k choose beam row, x.pre = ℓ := by
  by_cases hS : selected (Ops.of R) sel row = []
  · rw [step_of_nil hS]
    rw [nextNB_of_not_mem _ row _ _ _ (by simp [hS]), add_zero] at hℓ
    rcases lookupVal_cases beam ℓ with ⟨e, he, hp, _⟩ | ⟨_, h⟩
    · exact ⟨_, List.mem_map_of_mem he, hp⟩
    · rw [nextB, bOf, nbOf, h, h, add_zero, zero_mul] at hℓ
      exact absurd hℓ (lt_irrefl _)
  · rw [step_eq_cut hS]
    obtain ⟨x, hx, hp⟩ := pos_complete lm _ (nodup_selected _ sel row) hb hnn hnil hrow hℓ
    have h2 := hlen (min k (posCands lm (selected (Ops.of R) sel row) beam row).length)
      (posCands lm (selected (Ops.of R) sel row) beam row)
    exact ⟨x, (((hsub _ _).perm_of_length_le (by rw [h2]; omega)).mem_iff).mpr hx, hp⟩

/-- The beam never dies: positive somewhere before a live row, positive everywhere after it. -/
theorem step_alive (hk : 1 ≤ k) (hlen : ∀ k l, (choose k l).length = min k l.length)
    (ha : 0 < blankP (Ops.of R) row ∨
      ∃ c ∈ selected (Ops.of R) sel row, 0 < rowAt (Ops.of R) row c)
    (hne : beam ≠ []) (hpos : ∀ e ∈ beam, 0 < score (Ops.of R) e) :
    step (Ops.of R) lm sel k choose beam row ≠ [] ∧
      ∀ e ∈ step (Ops.of R) lm sel k choose beam row, 0 < score (Ops.of R) e := by
  by_cases hS : selected (Ops.of R) sel row = []
  · rw [step_of_nil hS]
    have hbl : 0 < blankP (Ops.of R) row := by
      rcases ha with h | ⟨c, hc, _⟩
      · exact h
      · rw [hS] at hc; simp at hc
    refine ⟨by simpa using hne, fun x hx => ?_⟩
    obtain ⟨e, he, rfl⟩ := List.mem_map.mp hx
    show 0 < stayPb (Ops.of R) row e + 0
    rw [add_zero]
    exact mul_pos (hpos e he) hbl
  · rw [step_eq_cut hS]
    constructor
    · obtain ⟨e, he⟩ := List.exists_mem_of_ne_nil beam hne
      obtain ⟨ℓ, hℓ⟩ := next_pos hrow (bOf_nonneg hnn) (nbOf_nonneg hnn) ha
        (ℓ := e.pre) (by
          rw [bOf, nbOf, lookupVal_some hb.1 he, lookupVal_some hb.1 he]
          exact hpos e he)
      obtain ⟨x, hx, _⟩ := pos_complete lm _ (nodup_selected _ sel row) hb hnn hnil hrow hℓ
      have := List.length_pos_of_mem hx
      have h2 := hlen (min k (posCands lm (selected (Ops.of R) sel row) beam row).length)
        (posCands lm (selected (Ops.of R) sel row) beam row)
      intro h
      rw [h, List.length_nil] at h2
      omega
    · intro x hx
      simpa using (List.mem_filter.mp ((hsub _ _).subset hx)).2

end Step

/-! ### the beam against the path sums -/

/-- The blank / non-blank masses before (`B`, `NB`) and after (`B'`, `NB'`) the frame `row`. -/
structure Rec (row : List R) (B NB B' NB' : List ℕ → R) : Prop where
  nnB : ∀ ℓ, 0 ≤ B ℓ
  nnNB : ∀ ℓ, 0 ≤ NB ℓ
  nil : NB [] = 0
  recB : ∀ ℓ, B' ℓ = nextB row B NB ℓ
  recNB : ∀ ℓ, NB' ℓ = nextNB (List.range (row.length - 1)) row B NB ℓ

/-- The CTC masses obey the recursion (`massB_snoc`, `massNB_snoc`). -/
theorem rec_mass {C : ℕ} (hC : 0 < C) {M : List (List R)} (hM : ∀ row ∈ M, ∀ x ∈ row, 0 ≤ x)
    {r : List R} (hr : r.length = C) :
    Rec r (Ctc.massB C (C - 1) M) (Ctc.massNB C (C - 1) M) (Ctc.massB C (C - 1) (M ++ [r]))
      (Ctc.massNB C (C - 1) (M ++ [r])) := by
  refine ⟨Ctc.massB_nonneg hM, Ctc.massNB_nonneg hM, Ctc.massNB_nil _ _ _, ?_, ?_⟩
  · intro ℓ
    rw [Ctc.massB_snoc C hC, nextB, blankP, hr]
    rfl
  · intro ℓ
    rcases List.eq_nil_or_concat ℓ with rfl | ⟨ℓ', c, rfl⟩
    · exact Ctc.massNB_nil _ _ _
    · rw [List.concat_eq_append, nextNB_snoc, hr]
      by_cases hc : c < C - 1
      · rw [if_pos (List.mem_range.mpr hc), add_mul]
        exact Ctc.massNB_snoc C M r ℓ' c hc
      · rw [if_neg (by simpa using hc)]
        exact Ctc.massNB_eq_zero_of_mem C _ _ ⟨c, by simp, hc⟩

/-- the upper-bound invariant for one entry -/
def Bd (B NB : List ℕ → R) (e : Entry H R) : Prop :=
  0 ≤ e.pb ∧ 0 ≤ e.pnb ∧ e.pb ≤ B e.pre ∧ e.pnb ≤ NB e.pre

section Readings
variable {beam : List (Entry H R)} {sel : R → Bool} {B NB B' NB' : List ℕ → R}
  (hrec : Rec row B NB B' NB') (hrow : ∀ x ∈ row, 0 ≤ x) (lm : LM H R) (k : ℕ)
  {choose : ℕ → List (Entry H R) → List (Entry H R)} (hsub : ∀ k l, (choose k l).Subperm l)
  (hb : OK beam)
include hrec hrow hsub hb

/-- Never over-counts: the recursion is monotone, and the cut only removes entries. -/
theorem step_bd (sel : R → Bool) (hbd : ∀ e ∈ beam, Bd B NB e) :
    ∀ x ∈ step (Ops.of R) lm sel k choose beam row, Bd B' NB' x := by
  intro x hx
  have hnn : ∀ e ∈ beam, 0 ≤ e.pb ∧ 0 ≤ e.pnb := fun e he => ⟨(hbd e he).1, (hbd e he).2.1⟩
  have hnil : ∀ e ∈ beam, e.pre = [] → e.pnb = 0 := fun e he hp =>
    le_antisymm (by have := (hbd e he).2.2.2; rwa [hp, hrec.nil] at this) (hnn e he).2
  have hB : ∀ ℓ, bOf beam ℓ ≤ B ℓ := fun ℓ =>
    lookupVal_le (fun e he => (hbd e he).2.2.1) (hrec.nnB ℓ)
  have hNB : ∀ ℓ, nbOf beam ℓ ≤ NB ℓ := fun ℓ =>
    lookupVal_le (fun e he => (hbd e he).2.2.2) (hrec.nnNB ℓ)
  obtain ⟨h1, h2⟩ := step_val lm sel k hsub hb hnn hnil hrow x hx
  rw [Bd, h1, h2, hrec.recB, hrec.recNB]
  exact ⟨nextB_nonneg hrow (bOf_nonneg hnn) (nbOf_nonneg hnn) _,
    nextNB_nonneg hrow _ (bOf_nonneg hnn) (nbOf_nonneg hnn) _,
    mul_le_mul_of_nonneg_right (add_le_add (hB _) (hNB _)) (blankP_nonneg hrow),
    nextNB_mono hrow (fun c hc => List.mem_range.mpr (mem_selected.mp hc).1) hB hNB
      hrec.nnB hrec.nnNB _⟩

/-- Exact and complete when the selector keeps every symbol of positive probability and the cut
keeps every positive candidate. -/
theorem step_exact (hlen : ∀ k l, (choose k l).length = min k l.length)
    (hsel : ∀ p : R, 0 < p → sel p = true)
    (hex : ∀ e ∈ beam, e.pb = B e.pre ∧ e.pnb = NB e.pre)
    (hcomp : ∀ ℓ, 0 < B ℓ + NB ℓ → ∃ e ∈ beam, e.pre = ℓ)
    (hnp : (posCands lm (selected (Ops.of R) sel row) beam row).length ≤ k) :
    (∀ e ∈ step (Ops.of R) lm sel k choose beam row, e.pb = B' e.pre ∧ e.pnb = NB' e.pre) ∧
    (∀ ℓ, 0 < B' ℓ + NB' ℓ → ∃ e ∈ step (Ops.of R) lm sel k choose beam row, e.pre = ℓ) := by
  -- exact and complete: as a map, the beam is `(B, NB)`
  have hval : ∀ ℓ, bOf beam ℓ = B ℓ ∧ nbOf beam ℓ = NB ℓ := by
    intro ℓ
    rcases lookupVal_cases beam ℓ with ⟨e, he, rfl, h⟩ | ⟨hn, h⟩ <;> rw [bOf, nbOf, h, h]
    · exact hex e he
    · have h0 : B ℓ + NB ℓ ≤ 0 := not_lt.mp fun hp =>
        let ⟨e, he, hp'⟩ := hcomp ℓ hp
        hn e he hp'
      exact ⟨le_antisymm (hrec.nnB ℓ) (le_trans (le_add_of_nonneg_right (hrec.nnNB ℓ)) h0),
        le_antisymm (hrec.nnNB ℓ) (le_trans (le_add_of_nonneg_left (hrec.nnB ℓ)) h0)⟩
  have hB : bOf beam = B := funext fun ℓ => (hval ℓ).1
  have hNB : nbOf beam = NB := funext fun ℓ => (hval ℓ).2
  have hnn : ∀ e ∈ beam, 0 ≤ e.pb ∧ 0 ≤ e.pnb := fun e he => by
    rw [(hex e he).1, (hex e he).2]
    exact ⟨hrec.nnB _, hrec.nnNB _⟩
  have hnil : ∀ e ∈ beam, e.pre = [] → e.pnb = 0 := fun e he hp => by
    rw [(hex e he).2, hp, hrec.nil]
  -- symbols that are not selected have probability 0
  have hS : ∀ ℓ, nextNB (selected (Ops.of R) sel row) row B NB ℓ = NB' ℓ := fun ℓ => by
    rw [hrec.recNB]
    refine nextNB_subset (fun c hc => List.mem_range.mpr (mem_selected.mp hc).1)
      (fun c hc hns => ?_) B NB ℓ
    exact le_antisymm (not_lt.mp fun hp =>
      hns (mem_selected.mpr ⟨List.mem_range.mp hc, hsel _ hp⟩)) (rowAt_nonneg hrow c)
  constructor
  · intro x hx
    obtain ⟨h1, h2⟩ := step_val lm sel k hsub hb hnn hnil hrow x hx
    rw [hB, hNB] at h1 h2
    exact ⟨h1.trans (hrec.recB _).symm, h2.trans (hS _)⟩
  · intro ℓ hℓ
    apply step_complete lm sel k hsub hb hnn hnil hrow hlen hnp
    rwa [hB, hNB, ← hrec.recB, hS]

end Readings

end Ordered

end PB
