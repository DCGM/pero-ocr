/-
The cache protocol with tags (C20): within a batch the first `k` slots of both caches hold the tags this batch
wrote at steps `1..k` (`Inv`); between batches only the lengths are known (`LenInv`).  Also the decoding loop,
`postprocess` and the index algebra of the reshapes.
-/
import PeroVerif.Model.KVCache
import PeroVerif.Lemmas.ListAux

namespace KV

/-- what slots `0..k-1` hold once steps `1..k` of batch `n` have written them -/
def written (n k : Nat) : List Tag := (List.range k).map fun i => some (n, i + 1)

theorem written_succ (n k : Nat) : written n (k + 1) = written n k ++ [some (n, k + 1)] := by
  simp [written, List.range_succ]

theorem length_written (n k : Nat) : (written n k).length = k := by simp [written]

theorem freshSlots_written (n k : Nat) : freshSlots n k (written n k) = true := by
  simp only [freshSlots, written, List.all_map, List.all_eq_true, List.mem_range]
  intro i hi
  simp
  omega

/-- writing slot `k` extends the written prefix by one -/
theorem take_setSlot (n k : Nat) (l : List Tag) (h : l.take k = written n k) (hk : k < l.length) :
    (setSlot l k (some (n, k + 1))).take (k + 1) = written n (k + 1) := by
  rw [setSlot, ListAux.take_set_succ l k _ hk, h, written_succ]

/-- holds between batches -/
def LenInv (maxLen : Nat) (ly : Layer) : Prop :=
  (∀ c, ly.selfCache = some c → c.length = maxLen) ∧
  (∀ b sl, ly.mem = some (b, sl) → sl.length = maxLen)

/-- state before step `k+1` of batch `n` -/
def Inv (maxLen n B S k : Nat) (ly : Layer) : Prop :=
  LenInv maxLen ly ∧
  (0 < k →
    (∃ c, ly.selfCache = some c ∧ c.take k = written n k) ∧ ly.crossKV = some (n, S) ∧
    (∃ sl, ly.mem = some (B, sl) ∧ sl.take k = written n k))

theorem lenInv_init (maxLen : Nat) : LenInv maxLen Layer.init :=
  ⟨fun _ h => (by cases h), fun _ _ h => (by cases h)⟩

theorem Inv.zero {maxLen : Nat} {ly : Layer} (n B S : Nat) (h : LenInv maxLen ly) : Inv maxLen n B S 0 ly :=
  ⟨h, fun h => absurd h (Nat.lt_irrefl 0)⟩

/-- `memory_tgt` as a step finds it: kept if the batch size is the same, newly allocated otherwise -/
def memBase (maxLen B : Nat) : Option (Nat × List Tag) → List Tag
  | some (b, slots) => if b ≠ B then List.replicate maxLen none else slots
  | none => List.replicate maxLen none

/-- the effect of step `k+1` on two slot lists and the cross-attention entry -/
def write (n B S k : Nat) (sc0 m0 : List Tag) : Layer × Reads :=
  let sc := setSlot sc0 k (some (n, k + 1))
  let m := setSlot m0 k (some (n, k + 1))
  ({ selfCache := some sc, crossKV := some (n, S), mem := some (B, m) },
   { selfSlots := sc.take (k + 1), cross := some (n, S), memSlots := m.take (k + 1) })

/-- The only place where `step` is unfolded: under the invariant it is a `write` into two lists of full length whose
first `k` slots this batch has written — at `k = 0` whatever was kept or newly allocated, later the stored ones. -/
theorem step_eq_write (maxLen n B S k : Nat) (ly : Layer) (h : Inv maxLen n B S k ly) :
    ∃ sc0 m0 : List Tag, sc0.length = maxLen ∧ m0.length = maxLen ∧
      sc0.take k = written n k ∧ m0.take k = written n k ∧
      step maxLen n B S (k + 1) ly = write n B S k sc0 m0 := by
  obtain ⟨⟨hs, hm⟩, hinv⟩ := h
  rcases Nat.eq_zero_or_pos k with rfl | hk
  · obtain ⟨sc, kv, m⟩ := ly
    refine ⟨List.replicate maxLen none, memBase maxLen B m, List.length_replicate, ?_, rfl, rfl, ?_⟩
    · rcases m with _ | ⟨b, sl⟩
      · exact List.length_replicate
      · by_cases hb : b ≠ B
        · simp [memBase, hb]
        · simpa [memBase, hb] using hm b sl rfl
    · rcases m with _ | ⟨b, sl⟩ <;> cases sc <;> cases kv <;> rfl
  · obtain ⟨⟨c, hc, hcw⟩, hkv, sl, hsl, hslw⟩ := hinv hk
    refine ⟨c, sl, hs c hc, hm B sl hsl, hcw, hslw, ?_⟩
    have : k ≠ 0 := by omega
    simp [step, write, hc, hkv, hsl, this]

theorem write_spec (maxLen n B S k : Nat) (sc0 m0 : List Tag) (hk : k < maxLen)
    (h1 : sc0.length = maxLen) (h2 : m0.length = maxLen)
    (h3 : sc0.take k = written n k) (h4 : m0.take k = written n k) :
    Inv maxLen n B S (k + 1) (write n B S k sc0 m0).1 ∧ (write n B S k sc0 m0).2.fresh n (k + 1) S = true := by
  have e1 := take_setSlot n k sc0 h3 (by omega)
  have e2 := take_setSlot n k m0 h4 (by omega)
  constructor
  · refine ⟨⟨?_, ?_⟩, fun _ => ⟨⟨_, rfl, e1⟩, rfl, _, rfl, e2⟩⟩
    · rintro c ⟨⟩; simpa [setSlot] using h1
    · rintro b sl ⟨⟩; simpa [setSlot] using h2
  · simp [Reads.fresh, write, e1, e2, freshSlots_written, length_written]

theorem step_spec (maxLen n B S k : Nat) (ly : Layer) (h : Inv maxLen n B S k ly) (hk : k < maxLen) :
    Inv maxLen n B S (k + 1) (step maxLen n B S (k + 1) ly).1 ∧
    (step maxLen n B S (k + 1) ly).2.fresh n (k + 1) S = true := by
  obtain ⟨sc0, m0, h1, h2, h3, h4, e⟩ := step_eq_write maxLen n B S k ly h
  rw [e]
  exact write_spec maxLen n B S k sc0 m0 hk h1 h2 h3 h4

theorem runBatch_spec (maxLen n B S : Nat) : ∀ (k j : Nat) (ly : Layer), j + k ≤ maxLen →
    Inv maxLen n B S j ly →
    LenInv maxLen (runBatch maxLen n B S k (j + 1) ly).1 ∧
    ∀ tr ∈ (runBatch maxLen n B S k (j + 1) ly).2, tr.2.fresh n tr.1 S = true := by
  intro k
  induction k with
  | zero => exact fun j ly _ hinv => ⟨hinv.1, fun tr htr => nomatch htr⟩
  | succ k ih =>
    intro j ly hjk hinv
    obtain ⟨hinv', hfresh⟩ := step_spec maxLen n B S j ly hinv (by omega)
    obtain ⟨hlen, hrest⟩ := ih (j + 1) _ (by omega) hinv'
    exact ⟨hlen, List.forall_mem_cons.2 ⟨hfresh, hrest⟩⟩

theorem runBatch_steps (maxLen n B S : Nat) : ∀ (k t : Nat) (ly : Layer),
    (runBatch maxLen n B S k t ly).2.map (fun tr => tr.1) = List.range' t k := by
  intro k
  induction k with
  | zero => intro t ly; rfl
  | succ k ih => intro t ly; simp only [runBatch, List.map_cons, ih, List.range'_succ]

theorem runHistory_fresh (maxLen : Nat) : ∀ (hist : List Batch) (n : Nat) (ly : Layer),
    (∀ b ∈ hist, b.steps ≤ maxLen) → LenInv maxLen ly →
    ∀ r ∈ runHistory maxLen n hist ly, ∃ j b, hist[j]? = some b ∧ r.1 = n + j ∧
      r.2.2.fresh r.1 r.2.1 b.srcLen = true := by
  intro hist
  induction hist with
  | nil => exact fun n ly _ _ r hr => nomatch hr
  | cons b bs ih =>
    intro n ly hsteps hlen r hr
    rw [List.forall_mem_cons] at hsteps
    obtain ⟨hlen', hfresh⟩ := runBatch_spec maxLen n b.size b.srcLen b.steps 0 ly (by omega) (.zero n _ _ hlen)
    simp only [runHistory, List.mem_append, List.mem_map] at hr
    rcases hr with ⟨tr, htr, rfl⟩ | hr
    · exact ⟨0, b, rfl, rfl, hfresh tr htr⟩
    · obtain ⟨j, b', hj, hn, hf⟩ := ih (n + 1) _ hsteps.2 hlen' r hr
      exact ⟨j + 1, b', hj, by omega, hf⟩

theorem runHistory_steps (maxLen : Nat) : ∀ (hist : List Batch) (n : Nat) (ly : Layer),
    (runHistory maxLen n hist ly).map (fun r => (r.1, r.2.1)) =
      (List.range hist.length).flatMap fun j =>
        (List.range (hist.getD j ⟨0, 0, 0⟩).steps).map fun k => (n + j, k + 1) := by
  intro hist
  induction hist with
  | nil => intro n ly; simp [runHistory]
  | cons b bs ih =>
    intro n ly
    simp only [runHistory, List.map_append, List.map_map, List.length_cons, List.range_succ_eq_map,
      List.flatMap_cons, List.flatMap_map]
    rw [ih]
    congr 1
    · have h := congrArg (List.map (fun t => (n, t))) (runBatch_steps maxLen n b.size b.srcLen b.steps 1 ly)
      rw [List.range'_eq_map_range] at h
      simpa [Function.comp_def, Nat.add_comm] using h
    · congr 1
      funext j
      simp only [List.getD_cons_succ]
      apply List.map_congr_left
      intro k _
      congr 1
      omega

theorem loop_bounds (next : List (List Nat) → List Nat) (eos cap : Nat) :
    ∀ (fuel : Nat) (part : List (List Nat)) (alive : List Bool) (it : Nat), part.length ≤ cap →
      (loop next eos cap fuel part alive it).2 ≤ it + fuel ∧
      it ≤ (loop next eos cap fuel part alive it).2 ∧
      (fuel ≠ 0 → it < (loop next eos cap fuel part alive it).2) ∧
      (loop next eos cap fuel part alive it).1.length ≤ cap := by
  intro fuel
  induction fuel with
  | zero => exact fun part alive it hp => ⟨Nat.le_refl _, Nat.le_refl _, fun h => absurd rfl h, hp⟩
  | succ fuel ih =>
    intro part alive it hp
    have stop : (part, it + 1).2 ≤ it + (fuel + 1) ∧ it ≤ (part, it + 1).2 ∧
        (fuel + 1 ≠ 0 → it < (part, it + 1).2) ∧ (part, it + 1).1.length ≤ cap :=
      ⟨Nat.add_le_add_left (Nat.succ_le_succ (Nat.zero_le _)) _, Nat.le_succ _, fun _ => Nat.lt_succ_self _, hp⟩
    rw [loop]
    split
    · exact stop
    · split
      · exact stop
      · rename_i hcap
        obtain ⟨h1, h2, _, h4⟩ := ih (part ++ [next part])
          (List.zipWith (fun a s => a && s != eos) alive (next part)) (it + 1)
          (by rw [List.length_append, List.length_singleton]; exact Nat.le_of_not_gt hcap)
        exact ⟨Nat.add_right_comm it 1 fuel ▸ h1, Nat.le_of_succ_le h2, fun _ => h2, h4⟩

theorem postprocess_mem (eos ign : Nat) : ∀ (line : List Nat) (x : Nat),
    x ∈ postprocess eos ign line → x ≠ eos ∧ x ≠ ign := by
  intro line
  induction line with
  | nil => intro x hx; simp [postprocess] at hx
  | cons s r ih =>
    intro x hx
    simp only [postprocess] at hx
    split at hx
    · simp at hx
    · split at hx
      · exact ih x hx
      · rcases List.mem_cons.1 hx with rfl | hx
        · constructor <;> assumption
        · exact ih x hx

theorem postprocess_sublist (eos ign : Nat) : ∀ (line : List Nat),
    (postprocess eos ign line).Sublist line := by
  intro line
  induction line with
  | nil => simp [postprocess]
  | cons s r ih =>
    simp only [postprocess]
    split
    · exact List.nil_sublist _
    · split
      · exact List.Sublist.cons _ ih
      · exact List.Sublist.cons_cons _ ih

end KV
