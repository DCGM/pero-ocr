/-
`processPage` (over lines) and `run` (over pages) are the same loop: a fold that threads a state and appends one output
per element.  `mapSt` is that loop without the accumulator; the facts of C08 are proved about it.
-/
import PeroVerif.Model.PageDecoder

namespace PD
open Py

section mapSt
variable {σ α β : Type}

def mapSt (step : σ → α → σ × β) : σ → List α → σ × List β
  | s, [] => (s, [])
  | s, a :: l => ((mapSt step (step s a).1 l).1, (step s a).2 :: (mapSt step (step s a).1 l).2)

theorem foldl_eq_mapSt (step : σ → α → σ × β) (l : List α) (s : σ) (acc : List β) :
    l.foldl (fun (r : σ × List β) a => ((step r.1 a).1, r.2 ++ [(step r.1 a).2])) (s, acc) =
      ((mapSt step s l).1, acc ++ (mapSt step s l).2) := by
  induction l generalizing s acc with
  | nil => simp [mapSt]
  | cons a l ih => simp [mapSt, ih]

theorem mapSt_length (step : σ → α → σ × β) (l : List α) (s : σ) : (mapSt step s l).2.length = l.length := by
  induction l generalizing s with
  | nil => rfl
  | cons a l ih => simp [mapSt, ih]

/-- if no output depends on the state, the outputs are a plain `map` -/
theorem mapSt_of_indep (step : σ → α → σ × β) (s0 : σ) (h : ∀ s a, (step s a).2 = (step s0 a).2)
    (l : List α) (s : σ) : (mapSt step s l).2 = l.map fun a => (step s0 a).2 := by
  induction l generalizing s with
  | nil => rfl
  | cons a l ih => simp [mapSt, ih, h s a]

end mapSt

variable {X H : Type}

theorem processPage_eq (e : Env X H) (st : St H) (pg : List (Line X)) :
    processPage e st pg = mapSt (decodeLine e)
      { lastH := none, lastLine := if Gen.PageDecoder.resetsLastLine then none else st.lastLine } pg :=
  (foldl_eq_mapSt (decodeLine e) pg _ []).trans rfl

theorem run_eq (e : Env X H) (pages : List (List (Line X))) : run e pages = mapSt (processPage e) init pages :=
  (foldl_eq_mapSt (processPage e) pages init []).trans rfl

/-- With the reset flag, a page is processed from the fresh state whatever the incoming state. -/
theorem processPage_state_indep (hr : Gen.PageDecoder.resetsLastLine = true)
    (e : Env X H) (st st' : St H) (pg : List (Line X)) :
    processPage e st pg = processPage e st' pg := by
  simp only [processPage_eq, hr, if_true]

theorem run_pagewise (hr : Gen.PageDecoder.resetsLastLine = true)
    (e : Env X H) (pages : List (List (Line X))) :
    (run e pages).2 = pages.map fun pg => (processPage e init pg).2 := by
  rw [run_eq]
  exact mapSt_of_indep _ init (fun s pg => congrArg Prod.snd (processPage_state_indep hr e s init pg)) pages init

/-- a line that already carries the transcription the decoder gives it is decoded to the same -/
theorem decodeLine_writeBack (e : Env X H) (s : St H) (l : Line X) :
    decodeLine e s { l with text := (decodeLine e s l).2 } = decodeLine e s l := by
  unfold decodeLine
  by_cases hc : l.confident
  · simp [hc]
  · simp only [hc]
    by_cases hk : e.carry <;> simp [hk]

theorem mapSt_writeBack (e : Env X H) (pg : List (Line X)) (s : St H) :
    mapSt (decodeLine e) s (writeBack pg (mapSt (decodeLine e) s pg).2) = mapSt (decodeLine e) s pg := by
  induction pg generalizing s with
  | nil => rfl
  | cons l pg ih => simp only [mapSt, writeBack, List.zipWith_cons_cons, decodeLine_writeBack]; rw [← writeBack, ih]

theorem processPage_writeBack (hr : Gen.PageDecoder.resetsLastLine = true) (e : Env X H) (st st' : St H)
    (pg : List (Line X)) :
    (processPage e st' (writeBack pg (processPage e st pg).2)).2 = (processPage e st pg).2 := by
  simp only [processPage_eq, hr, if_true, mapSt_writeBack]

end PD
