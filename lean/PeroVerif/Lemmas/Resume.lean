/-
Helper lemmas for C17 (resume protocol).

Every lemma that depends on the GENERATED configuration (`checkedKinds`, `writeOrder`, `matcher`,
`divisionGuarded`) takes the facts it needs as hypotheses, so this file compiles whatever the
generated constants are; `PeroVerif/Props/C17.lean` instantiates the hypotheses with the `cfg_*`
theorems.  Core Lean only.
-/
import PeroVerif.Model.Resume
import PeroVerif.Lemmas.ListAux

namespace C17
open Resume Gen.ParseFolder Py

/-- an id from which `splitext` can recover itself: it has a character that is not a dot -/
def GoodId (id : Str) : Prop := id.any (· != cDot) = true

/-- distinct, recoverable page ids; crop file names of different pages do not collide -/
def GoodPages (pages : List Page) : Prop :=
  (pages.map (·.id)).Nodup ∧ (∀ p ∈ pages, GoodId p.id) ∧
  ∀ p ∈ pages, ∀ q ∈ pages, p ≠ q → ∀ f ∈ filesOf p .lines, f ∉ filesOf q .lines

end C17

namespace Resume
open Gen.ParseFolder Py C17

/-! ### cuts of concatenated write lists -/

/-- a cut that contains `f` contains everything before the first `f` -/
theorem mem_take_of_before {β} {U V : List β} {f : β} {m : Nat} (hU : f ∉ U)
    (h : f ∈ (U ++ f :: V).take m) : ∀ a ∈ U, a ∈ (U ++ f :: V).take m := by
  intro a ha
  rw [List.take_append] at h ⊢
  rcases List.mem_append.1 h with h | h
  · exact absurd (List.mem_of_mem_take h) hU
  · have : U.length < m := Nat.lt_of_sub_pos (Nat.pos_of_ne_zero fun h0 => by rw [h0] at h; cases h)
    exact List.mem_append_left _ (by rwa [List.take_of_length_le (Nat.le_of_lt this)])

/-- A cut of the concatenated write lists of distinct owners with disjoint items: with an item of
owner `p` it contains everything `p` writes before that item's first write. -/
theorem mem_take_flatMap_of_before {α β} (g : α → List β) {l : List α} (hn : l.Nodup) {p : α}
    (hd : ∀ y ∈ l, ∀ f, f ∈ g p → f ∈ g y → p = y) {A B : List β} {f : β} (hW : g p = A ++ f :: B)
    (hA : f ∉ A) {m : Nat} (hf : f ∈ (l.flatMap g).take m) : ∀ a ∈ A, a ∈ (l.flatMap g).take m := by
  have hfp : f ∈ g p := hW ▸ List.mem_append_right _ (List.mem_cons_self ..)
  obtain ⟨y, hy, hfy⟩ := List.mem_flatMap.1 (List.mem_of_mem_take hf)
  obtain rfl := hd y hy f hfp hfy
  obtain ⟨l1, l2, rfl⟩ := List.append_of_mem hy
  -- `f` is first written after the blocks of `l1` and after `A`
  have hU : f ∉ l1.flatMap g ++ A := fun h => (List.mem_append.1 h).elim
    (fun h => by
      obtain ⟨y, hy1, hfy⟩ := List.mem_flatMap.1 h
      obtain rfl := hd y (List.mem_append_left _ hy1) f hfp hfy
      exact (List.nodup_append.1 hn).2.2 _ hy1 _ (List.mem_cons_self ..) rfl)
    hA
  have e : (l1 ++ p :: l2).flatMap g = (l1.flatMap g ++ A) ++ f :: (B ++ l2.flatMap g) := by
    rw [List.flatMap_append, List.flatMap_cons, hW]; simp
  rw [e] at hf ⊢
  exact fun a ha => mem_take_of_before hU hf a (List.mem_append_right _ ha)

/-! ### `splitext` / `stemOf` -/

theorem splitext_append (id e : Str) (he : ∀ c ∈ e, c ≠ cDot) (hid : id.any (· != cDot) = true) :
    splitext (id ++ cDot :: e) = (id, cDot :: e) := by
  have hfind : (id ++ cDot :: e).reverse.findIdx? (fun c => decide (c = cDot)) = some e.length := by
    have hn : e.reverse.findIdx? (fun c => decide (c = cDot)) = none :=
      List.findIdx?_eq_none_iff.2 fun c hc => decide_eq_false (he c (List.mem_reverse.1 hc))
    rw [List.reverse_append, List.reverse_cons, List.append_assoc, List.findIdx?_append, hn,
      List.singleton_append, List.findIdx?_cons, decide_eq_true rfl, List.length_reverse, if_pos rfl]
    simp only [Option.none_or, Option.map_some, Nat.zero_add]
  have hd : (id ++ cDot :: e).length - 1 - e.length = id.length := by
    rw [List.length_append, List.length_cons, Nat.add_succ_sub_one, Nat.add_sub_cancel]
  rw [splitext, hfind]
  dsimp only
  rw [hd, List.take_left, List.drop_left, if_pos hid]

/-- extension of the single output file of a kind other than `.lines` -/
def extOf : Kind → Str
  | .xml => extXml | .render => extJpg | .logits => extLogits | .alto => extXml | .lines => extJpg

theorem filesOf_single (p : Page) (k : Kind) (hk : k ≠ .lines) :
    filesOf p k = [(k, p.id ++ extOf k)] := by
  cases k <;> first | rfl | exact absurd rfl hk

theorem stemOf_ext (hm : matcher = .splitext) (id : Str) (hid : id.any (· != cDot) = true) (k : Kind) :
    stemOf (id ++ extOf k) = some id := by
  obtain ⟨e, he, hne⟩ : ∃ e, extOf k = cDot :: e ∧ ∀ c ∈ e, c ≠ cDot := by
    cases k <;> exact ⟨_, rfl, by decide⟩
  have hk : extOf k = extLogits ∨ extOf k = extXml ∨ extOf k = extJpg := by cases k <;> decide
  rw [stemOf, hm]
  dsimp only
  rw [he, splitext_append id e hne hid, ← he]
  exact if_pos hk

/-! ### membership facts -/

theorem filesOf_kind {p : Page} {k : Kind} {f : File} (h : f ∈ filesOf p k) : f.1 = k := by
  cases k
  case lines =>
    simp only [filesOf, List.mem_map] at h
    obtain ⟨l, _, rfl⟩ := h
    rfl
  all_goals
    simp only [filesOf, List.mem_singleton] at h
    subst h
    rfl

theorem mem_writes {K : List Kind} {p : Page} {f : File} :
    f ∈ writes K p ↔ f.1 ∈ writeOrder ∧ f.1 ∈ K ∧ f ∈ filesOf p f.1 := by
  simp only [writes, List.mem_flatMap, List.mem_filter, List.contains_iff_mem]
  constructor
  · rintro ⟨k, ⟨hk1, hk2⟩, hf⟩
    obtain rfl := filesOf_kind hf
    exact ⟨hk1, hk2, hf⟩
  · rintro ⟨h1, h2, h3⟩
    exact ⟨f.1, ⟨h1, h2⟩, h3⟩

theorem mem_allOutputs {K : List Kind} {pages : List Page} {f : File} :
    f ∈ allOutputs K pages ↔ ∃ p ∈ pages, f ∈ writes K p := by
  simp [allOutputs, List.mem_flatMap]

theorem mem_addFiles {f : File} (ws : List File) (fs : FS) :
    f ∈ addFiles fs ws ↔ f ∈ fs ∨ f ∈ ws := by
  induction ws generalizing fs with
  | nil => simp [addFiles]
  | cons w ws ih =>
    rw [show addFiles fs (w :: ws) = addFiles (if fs.contains w then fs else fs ++ [w]) ws from rfl,
      ih, List.mem_cons]
    split
    next hw =>
      exact ⟨Or.imp_right Or.inr, fun h => h.elim Or.inl fun h =>
        h.elim (fun e => Or.inl (e ▸ List.contains_iff_mem.1 hw)) Or.inr⟩
    next => rw [List.mem_append, List.mem_singleton, or_assoc]

theorem mem_stemsIn {fs : FS} {k : Kind} {s : Str} :
    s ∈ stemsIn fs k ↔ ∃ f ∈ fs, f.1 = k ∧ stemOf f.2 = some s := by
  simp only [stemsIn, List.mem_filterMap, List.mem_filter, decide_eq_true_eq, and_assoc]

theorem mem_processed {fs : FS} {K : List Kind} {s : Str} :
    s ∈ processed fs K ↔
      checkedKinds.filter (K.contains ·) ≠ [] ∧ ∀ k ∈ checkedKinds.filter (K.contains ·), s ∈ stemsIn fs k := by
  unfold processed
  generalize checkedKinds.filter (K.contains ·) = L
  cases L with
  | nil => simp
  | cons k ks =>
    simp only [List.mem_filter, List.all_eq_true, List.contains_iff_mem, ne_eq, reduceCtorEq,
      not_false_eq_true, true_and, List.mem_cons, forall_eq_or_imp]

theorem mem_todo {fs : FS} {K : List Kind} {pages : List Page} {p : Page} :
    p ∈ todo fs K pages ↔ p ∈ pages ∧ p.id ∉ processed fs K := by
  simp [todo, List.mem_filter]

theorem runWrites_subset {fs : FS} {K : List Kind} {pages : List Page} {f : File}
    (h : f ∈ runWrites fs K pages) : f ∈ allOutputs K pages := by
  obtain ⟨p, hp, hf⟩ := List.mem_flatMap.1 h
  exact mem_allOutputs.2 ⟨p, (mem_todo.1 hp).1, hf⟩

/-! ### good batches -/

theorem _root_.C17.GoodPages.nodup {pages : List Page} (hg : GoodPages pages) : pages.Nodup :=
  List.Pairwise.of_map (·.id) (fun _ _ h e => h (congrArg _ e)) hg.1

theorem _root_.C17.GoodPages.id_inj {pages : List Page} (hg : GoodPages pages) {p q : Page}
    (hp : p ∈ pages) (hq : q ∈ pages) (h : p.id = q.id) : p = q :=
  ListAux.eq_of_nodup_map (·.id) hg.1 hp hq h

/-- pages own disjoint files -/
theorem writes_disjoint {pages : List Page} (hg : GoodPages pages) {K : List Kind} {p q : Page}
    (hp : p ∈ pages) (hq : q ∈ pages) {f : File}
    (h1 : f ∈ writes K p) (h2 : f ∈ writes K q) : p = q := by
  have h1 := (mem_writes.1 h1).2.2
  have h2 := (mem_writes.1 h2).2.2
  by_cases hk : f.1 = .lines
  · rw [hk] at h1 h2
    exact Classical.byContradiction fun hne => hg.2.2 p hp q hq hne f h1 h2
  · rw [filesOf_single _ _ hk, List.mem_singleton] at h1 h2
    exact hg.id_inj hp hq (List.append_cancel_right (Prod.mk.inj (h1.symm.trans h2)).2)

/-! ### the invariant of a crash history -/

/-- (I1) only requested outputs of the batch are on disk; (I2) with a file of a page, everything the
page writes before that file's first write is on disk (a kill keeps a prefix of the write list) -/
def Inv (K : List Kind) (pages : List Page) (fs : FS) : Prop :=
  (∀ f ∈ fs, f ∈ allOutputs K pages) ∧
  ∀ p ∈ pages, ∀ A f B, writes K p = A ++ f :: B → f ∉ A → f ∈ fs → ∀ a ∈ A, a ∈ fs

theorem inv_nil (K : List Kind) (pages : List Page) : Inv K pages [] :=
  ⟨fun _ h => (nomatch h), fun _ _ _ _ _ _ _ h => (nomatch h)⟩

theorem inv_crashRun {K : List Kind} {pages : List Page} (hg : GoodPages pages) {fs : FS}
    (hinv : Inv K pages fs) (k : Nat) : Inv K pages (crashRun fs K pages k) := by
  refine ⟨fun f hf => ?_, fun p hp A f B hW hA hf a ha => ?_⟩ <;>
    rw [crashRun, mem_addFiles] at *
  · exact hf.elim (hinv.1 f) fun h => runWrites_subset (List.mem_of_mem_take h)
  · exact hf.imp (fun h => hinv.2 p hp A f B hW hA h a ha) fun h =>
      mem_take_flatMap_of_before (writes K) (List.filter_sublist.nodup hg.nodup)
        (fun y hy f hfp hfy => writes_disjoint hg hp (mem_todo.1 hy).1 hfp hfy) hW hA h a ha

theorem inv_foldl {K : List Kind} {pages : List Page} (hg : GoodPages pages) (crashes : List Nat) :
    Inv K pages (crashes.foldl (fun fs k => crashRun fs K pages k) []) :=
  List.foldlRecOn crashes _ (inv_nil K pages) fun _ h k _ => inv_crashRun hg h k

/-! ### consequences of the configuration obligations (as hypotheses) -/

/-- shape of `cfg_last_write_checked`, for an arbitrary requested-kinds predicate -/
def LastWriteChecked : Prop :=
  ∀ r : Kind → Bool, checkedKinds.filter r ≠ [] →
    ∃ k, (writeOrder.filter r).getLast? = some k ∧ k ∈ checkedKinds ∧ k ≠ .lines

theorem lines_not_checked (HL : LastWriteChecked) : Kind.lines ∉ checkedKinds := by
  intro hmem
  obtain ⟨k, hk, _, hkl⟩ := HL (· == Kind.lines)
    (List.ne_nil_of_mem (List.mem_filter.2 ⟨hmem, beq_self_eq_true _⟩))
  exact hkl (eq_of_beq (List.mem_filter.1 (List.mem_of_getLast? hk)).2)

/-- (I3) a page counted as processed has all its requested outputs on disk -/
theorem processed_complete (hm : matcher = .splitext) (HL : LastWriteChecked) (HN : writeOrder.Nodup)
    {K : List Kind} {pages : List Page} (hg : GoodPages pages) {fs : FS} (hinv : Inv K pages fs)
    {p : Page} (hp : p ∈ pages) (hdone : p.id ∈ processed fs K) :
    ∀ f ∈ writes K p, f ∈ fs := by
  obtain ⟨hne, hall⟩ := mem_processed.1 hdone
  obtain ⟨kl, hlast, hkc, hkl⟩ := HL (K.contains ·) hne
  obtain ⟨init, hinit⟩ := List.getLast?_eq_some_iff.1 hlast
  have hklK := (List.mem_filter.1 (List.mem_of_getLast? hlast)).2
  -- the file of kind `kl` with stem `p.id` is `p`'s own
  obtain ⟨f, hf, hfk, hfs⟩ := mem_stemsIn.1 (hall kl (List.mem_filter.2 ⟨hkc, hklK⟩))
  obtain ⟨q, hq, hfq⟩ := mem_allOutputs.1 (hinv.1 f hf)
  have hfq' := (mem_writes.1 hfq).2.2
  rw [hfk, filesOf_single q kl hkl, List.mem_singleton] at hfq'
  have hstem : stemOf f.2 = some q.id := by
    rw [hfq']; exact stemOf_ext hm q.id (hg.2.1 q hq) kl
  obtain rfl : q = p := hg.id_inj hq hp (Option.some.inj (hstem.symm.trans hfs))
  -- it is the last write of the page and is not written before
  have hw : writes K q = init.flatMap (filesOf q) ++ [f] := by
    rw [writes, hinit, List.flatMap_append, List.flatMap_singleton, filesOf_single q kl hkl, hfq']
  have hnot : f ∉ init.flatMap (filesOf q) := fun h => by
    obtain ⟨k, hk, hfk'⟩ := List.mem_flatMap.1 h
    have hnd : (init ++ [kl]).Nodup := hinit ▸ (List.filter_sublist.nodup HN)
    exact (List.nodup_append.1 hnd).2.2 k hk kl (List.mem_singleton.2 rfl)
      ((filesOf_kind hfk').symm.trans hfk)
  intro g hg'
  rw [hw, List.mem_append, List.mem_singleton] at hg'
  exact hg'.elim (hinv.2 q hp _ f [] hw hnot hf g) fun e => e ▸ hf

/-- after a resume, the disk holds exactly the requested outputs -/
theorem fullRun_complete (hm : matcher = .splitext) (HL : LastWriteChecked) (HN : writeOrder.Nodup)
    {K : List Kind} {pages : List Page} (hg : GoodPages pages) {fs : FS} (hinv : Inv K pages fs) :
    ∀ f, f ∈ fullRun fs K pages ↔ f ∈ allOutputs K pages := by
  intro f
  rw [fullRun, mem_addFiles]
  refine ⟨fun h => h.elim (hinv.1 f) runWrites_subset, fun h => ?_⟩
  obtain ⟨p, hp, hfp⟩ := mem_allOutputs.1 h
  by_cases hdone : p.id ∈ processed fs K
  · exact Or.inl (processed_complete hm HL HN hg hinv hp hdone f hfp)
  · exact Or.inr (List.mem_flatMap.2 ⟨p, mem_todo.2 ⟨hp, hdone⟩, hfp⟩)

/-- if every requested output is on disk, every page is counted as processed -/
theorem all_processed (hm : matcher = .splitext) (HL : LastWriteChecked) (HW : ∀ k, k ∈ writeOrder)
    {K : List Kind} {pages : List Page} (hg : GoodPages pages) {fs : FS}
    (hall : ∀ f ∈ allOutputs K pages, f ∈ fs) (hK : checkedKinds.filter (K.contains ·) ≠ [])
    {p : Page} (hp : p ∈ pages) : p.id ∈ processed fs K := by
  refine mem_processed.2 ⟨hK, fun k hk => ?_⟩
  obtain ⟨hkc, hkK⟩ := List.mem_filter.1 hk
  have hkl : k ≠ .lines := fun h => lines_not_checked HL (h ▸ hkc)
  refine mem_stemsIn.2 ⟨(k, p.id ++ extOf k), ?_, rfl, stemOf_ext hm p.id (hg.2.1 p hp) k⟩
  apply hall
  refine mem_allOutputs.2 ⟨p, hp, mem_writes.2 ⟨HW k, List.contains_iff_mem.1 hkK, ?_⟩⟩
  show (k, p.id ++ extOf k) ∈ filesOf p k
  rw [filesOf_single p k hkl]
  exact List.mem_singleton.2 rfl

theorem todo_eq_nil_of_all_processed {fs : FS} {K : List Kind} {pages : List Page}
    (h : ∀ p ∈ pages, p.id ∈ processed fs K) : todo fs K pages = [] := by
  rw [todo, List.filter_eq_nil_iff]
  intro p hp
  simp [h p hp]

theorem todo_lines_only (HL : LastWriteChecked) (pages : List Page) (fs : FS) :
    todo fs [.lines] pages = pages := by
  have hnil : checkedKinds.filter (([Kind.lines] : List Kind).contains ·) = [] := by
    rw [List.filter_eq_nil_iff]
    intro k hk hc
    have : k = Kind.lines := by simpa using hc
    exact lines_not_checked HL (this ▸ hk)
  rw [todo, processed, hnil]
  simp

end Resume
