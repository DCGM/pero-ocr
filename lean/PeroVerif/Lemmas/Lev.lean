/-
Helper lemmas for C13 (Levenshtein DP, backtracking, substring distance, summaries).
Core Lean only.

The one notion everything rests on is `MinOver c P t v`: `v` is the least cost of an alignment with target `t`
whose source satisfies `P`.  `IsMin c s` is `MinOver c (· = s)`; the substring DP keeps "some suffix of the
consumed source" in its cells and "some infix" in its running best.  The DP recurrence (`minOver_step`), the
invariant of a cell (`CellOK`) and the backtracking (`back_ok`) are proved once, for a family `F σ` of admitted
sources (`SrcFam`), and instantiated twice.
-/
import PeroVerif.Model.Lev
import PeroVerif.Spec.Lev
import PeroVerif.Lemmas.ListAux

namespace Lev
variable {α : Type}

@[simp] theorem srcOf_append (a b : Alignment α) : srcOf (a ++ b) = srcOf a ++ srcOf b := by
  simp [srcOf]
@[simp] theorem tgtOf_append (a b : Alignment α) : tgtOf (a ++ b) = tgtOf a ++ tgtOf b := by
  simp [tgtOf]
@[simp] theorem cost_append [DecidableEq α] (c : Costs) (a b : Alignment α) :
    cost c (a ++ b) = cost c a + cost c b := by simp [cost]
theorem wf_append {a b : Alignment α} : WellFormed (a ++ b) ↔ WellFormed a ∧ WellFormed b := by
  simp only [WellFormed, List.mem_append, or_imp, forall_and]

@[simp] theorem srcOf_single (p : Option α × Option α) : srcOf [p] = p.1.toList := by
  rcases p with ⟨_|a, q⟩ <;> simp [srcOf]
@[simp] theorem tgtOf_single (p : Option α × Option α) : tgtOf [p] = p.2.toList := by
  rcases p with ⟨q, _|a⟩ <;> simp [tgtOf]
@[simp] theorem cost_single [DecidableEq α] (c : Costs) (p : Option α × Option α) :
    cost c [p] = stepCost c p := by simp [cost]
theorem wf_single {p : Option α × Option α} (h : p ≠ (none, none)) : WellFormed [p] := by
  intro q hq; simp at hq; subst hq; exact h
theorem wf_nil : WellFormed ([] : Alignment α) := by
  intro p hp; cases hp

@[simp] theorem srcOf_nil : srcOf ([] : Alignment α) = [] := rfl
@[simp] theorem tgtOf_nil : tgtOf ([] : Alignment α) = [] := rfl
@[simp] theorem cost_nil [DecidableEq α] (c : Costs) : cost c ([] : Alignment α) = 0 := rfl

theorem srcOf_cons (p : Option α × Option α) (al : Alignment α) :
    srcOf (p :: al) = p.1.toList ++ srcOf al := by
  rcases p with ⟨_|a, q⟩ <;> simp [srcOf]
theorem tgtOf_cons (p : Option α × Option α) (al : Alignment α) :
    tgtOf (p :: al) = p.2.toList ++ tgtOf al := by
  rcases p with ⟨q, _|a⟩ <;> simp [tgtOf]
theorem cost_cons [DecidableEq α] (c : Costs) (p : Option α × Option α) (al : Alignment α) :
    cost c (p :: al) = stepCost c p + cost c al := by simp [cost]
theorem wf_cons {p : Option α × Option α} {al : Alignment α} :
    WellFormed (p :: al) ↔ p ≠ (none, none) ∧ WellFormed al := by
  simp only [WellFormed, List.mem_cons, forall_eq_or_imp]

theorem srcOf_map_del (l : List α) : srcOf (l.map fun x => ((some x, none) : Option α × Option α)) = l := by
  induction l with
  | nil => rfl
  | cons a l ih => rw [List.map_cons, srcOf_cons, ih]; rfl

theorem tgtOf_map_del (l : List α) : tgtOf (l.map fun x => ((some x, none) : Option α × Option α)) = [] := by
  induction l with
  | nil => rfl
  | cons a l ih => rw [List.map_cons, tgtOf_cons, ih]; rfl

theorem wf_map_del (l : List α) : WellFormed (l.map fun x => ((some x, none) : Option α × Option α)) := by
  intro p hp
  obtain ⟨x, _, rfl⟩ := List.mem_map.1 hp
  simp

theorem cost_map_del [DecidableEq α] (c : Costs) (l : List α) :
    cost c (l.map fun x => ((some x, none) : Option α × Option α)) = l.length * c.del := by
  induction l with
  | nil => simp
  | cons a l ih => rw [List.map_cons, cost_cons, ih, List.length_cons, Nat.succ_mul, Nat.add_comm]; rfl

theorem WellFormed.induction {P : ∀ al : Alignment α, WellFormed al → Prop} (nil : P [] wf_nil)
    (del : ∀ a al hw, P al hw → P ((some a, none) :: al) (wf_cons.2 ⟨by simp, hw⟩))
    (sub : ∀ a b al hw, P al hw → P ((some a, some b) :: al) (wf_cons.2 ⟨by simp, hw⟩))
    (ins : ∀ b al hw, P al hw → P ((none, some b) :: al) (wf_cons.2 ⟨by simp, hw⟩)) :
    ∀ al hw, P al hw := by
  intro al hw
  induction al with
  | nil => exact nil
  | cons p al ih =>
    obtain ⟨hp, hw'⟩ := wf_cons.1 hw
    obtain ⟨_ | a, _ | b⟩ := p
    · exact absurd rfl hp
    · exact ins b al hw' (ih hw')
    · exact del a al hw' (ih hw')
    · exact sub a b al hw' (ih hw')

section
variable [DecidableEq α]

theorem stepCost_sub (c : Costs) (a b : α) : stepCost c (some a, some b) = subCost c b a := by
  simp [stepCost, subCost, eq_comm]

/-- `v` is the cost of some well-formed alignment with target `t` whose source satisfies `P`. -/
def Real (c : Costs) (P : List α → Prop) (t : List α) (v : Nat) : Prop :=
  ∃ al : Alignment α, WellFormed al ∧ P (srcOf al) ∧ tgtOf al = t ∧ cost c al = v

/-- `v` is the least such cost.  `IsMin c s` is `MinOver c (· = s)`; the substring variant uses
"is a suffix of `s`" and "is an infix of `s`". -/
def MinOver (c : Costs) (P : List α → Prop) (t : List α) (v : Nat) : Prop :=
  Real c P t v ∧ ∀ al : Alignment α, WellFormed al → P (srcOf al) → tgtOf al = t → v ≤ cost c al

theorem MinOver.unique {c : Costs} {P : List α → Prop} {t : List α} {v w : Nat}
    (hv : MinOver c P t v) (hw : MinOver c P t w) : v = w := by
  obtain ⟨⟨a, wa, sa, ta, ca⟩, lv⟩ := hv
  obtain ⟨⟨b, wb, sb, tb, cb⟩, lw⟩ := hw
  have h1 := lv b wb sb tb
  have h2 := lw a wa sa ta
  omega

theorem MinOver.congr {c : Costs} {P Q : List α → Prop} {t : List α} {v : Nat}
    (h : ∀ u, P u ↔ Q u) (hv : MinOver c P t v) : MinOver c Q t v := by
  obtain ⟨⟨a, wa, sa, ta, ca⟩, lv⟩ := hv
  exact ⟨⟨a, wa, (h _).1 sa, ta, ca⟩, fun b wb sb tb => lv b wb ((h _).2 sb) tb⟩

theorem minOver_nil (c : Costs) {P : List α → Prop} (h : P []) : MinOver c P [] 0 :=
  ⟨⟨[], wf_nil, h, rfl, rfl⟩, fun _ _ _ _ => Nat.zero_le _⟩

theorem Real.snoc {c : Costs} {P Q : List α → Prop} {t : List α} {v : Nat} (h : Real c P t v)
    (p : Option α × Option α) (hp : p ≠ (none, none)) (hPQ : ∀ u, P u → Q (u ++ p.1.toList)) :
    Real c Q (t ++ p.2.toList) (v + stepCost c p) := by
  obtain ⟨al, wa, sa, ta, ca⟩ := h
  exact ⟨al ++ [p], wf_append.2 ⟨wa, wf_single hp⟩, by rw [srcOf_append, srcOf_single]; exact hPQ _ sa,
    by rw [tgtOf_append, ta, tgtOf_single], by rw [cost_append, ca, cost_single]⟩

/-- A lower bound is checked on the last step: an admitted alignment is empty or ends in an insertion, a
deletion or a substitution. -/
theorem MinOver.of_last {c : Costs} {Q : List α → Prop} {t : List α} {v : Nat} (hr : Real c Q t v)
    (h0 : Q [] → [] = t → v = 0)
    (hins : ∀ a' b, WellFormed a' → Q (srcOf a') → tgtOf a' ++ [b] = t → v ≤ cost c a' + c.ins)
    (hdel : ∀ a' a, WellFormed a' → Q (srcOf a' ++ [a]) → tgtOf a' = t → v ≤ cost c a' + c.del)
    (hsub : ∀ a' a b, WellFormed a' → Q (srcOf a' ++ [a]) → tgtOf a' ++ [b] = t →
      v ≤ cost c a' + subCost c b a) : MinOver c Q t v := by
  refine ⟨hr, fun al wa sa ta => ?_⟩
  rcases List.eq_nil_or_concat al with rfl | ⟨a', p, rfl⟩
  · rw [h0 sa ta]; exact Nat.zero_le _
  · rw [List.concat_eq_append] at *
    obtain ⟨wa', wp⟩ := wf_append.1 wa
    rw [srcOf_append, srcOf_single] at sa
    rw [tgtOf_append, tgtOf_single] at ta
    rw [cost_append, cost_single]
    obtain ⟨_ | a, _ | b⟩ := p <;> simp only [Option.toList, List.append_nil] at sa ta
    · exact absurd rfl (wp _ (List.mem_singleton.2 rfl))
    · exact hins a' b wa' sa ta
    · exact hdel a' a wa' sa ta
    · rw [stepCost_sub]; exact hsub a' a b wa' sa ta

/-- The DP recurrence.  `P` admits the sources of the old row, `Q` those of the new row (one more source
symbol `x`): a source `u ++ [a]` is admitted by `Q` iff `u` is admitted by `P` and `a = x`. -/
theorem minOver_step (c : Costs) {P Q : List α → Prop} {x : α}
    (hQ : ∀ u a, Q (u ++ [a]) ↔ P u ∧ a = x) (tp : List α) (t : α) {diag up left : Nat}
    (hd : MinOver c P tp diag) (hu : MinOver c P (tp ++ [t]) up) (hl : MinOver c Q tp left) :
    MinOver c Q (tp ++ [t]) (min (min (up + c.del) (diag + subCost c t x)) (left + c.ins)) := by
  refine MinOver.of_last ?_ (fun _ h => by simp at h) ?_ ?_ ?_
  · have hu' := hu.1.snoc (Q := Q) (some x, none) (by simp) fun u h => (hQ u x).2 ⟨h, rfl⟩
    have hd' := hd.1.snoc (Q := Q) (some x, some t) (by simp) fun u h => (hQ u x).2 ⟨h, rfl⟩
    have hl' := hl.1.snoc (Q := Q) (none, some t) (by simp) fun u h => by simpa using h
    rw [stepCost_sub] at hd'
    simp only [Option.toList, List.append_nil] at hu' hd' hl'
    rcases Nat.le_total (min (up + c.del) (diag + subCost c t x)) (left + c.ins) with h | h
    · rw [Nat.min_eq_left h]
      rcases Nat.le_total (up + c.del) (diag + subCost c t x) with h' | h'
      · rw [Nat.min_eq_left h']; exact hu'
      · rw [Nat.min_eq_right h']; exact hd'
    · rw [Nat.min_eq_right h]; exact hl'
  · intro a' b wa' sa ta
    exact Nat.le_trans (Nat.min_le_right _ _)
      (Nat.add_le_add_right (hl.2 a' wa' sa (List.append_inj' ta rfl).1) _)
  · intro a' a wa' sa ta
    exact Nat.le_trans (Nat.min_le_left _ _) (Nat.le_trans (Nat.min_le_left _ _)
      (Nat.add_le_add_right (hu.2 a' wa' ((hQ _ _).1 sa).1 ta) _))
  · intro a' a b wa' sa ta
    obtain ⟨ta', h⟩ := List.append_inj' ta rfl
    obtain ⟨sa', rfl⟩ := (hQ _ _).1 sa
    cases h
    exact Nat.le_trans (Nat.min_le_left _ _) (Nat.le_trans (Nat.min_le_right _ _)
      (Nat.add_le_add_right (hd.2 a' wa' sa' ta') _))

theorem isMin_step (c : Costs) (σ tp : List α) (x t : α) (diag up left : Nat)
    (hd : IsMin c σ tp diag) (hu : IsMin c σ (tp ++ [t]) up) (hl : IsMin c (σ ++ [x]) tp left) :
    IsMin c (σ ++ [x]) (tp ++ [t]) (min (min (up + c.del) (diag + subCost c t x)) (left + c.ins)) :=
  minOver_step c (P := (· = σ)) (Q := (· = σ ++ [x])) (fun _ _ => List.append_singleton_inj) tp t hd hu hl

/-- Column 0 of the plain DP: only deletions. -/
theorem minOver_del (c : Costs) {P Q : List α → Prop} {x : α}
    (hQ : ∀ u a, Q (u ++ [a]) ↔ P u ∧ a = x) (hQ0 : ¬ Q []) {v : Nat} (h : MinOver c P [] v) :
    MinOver c Q [] (v + c.del) :=
  MinOver.of_last (h.1.snoc (some x, none) (by simp) fun u hu => (hQ u x).2 ⟨hu, rfl⟩)
    (fun h _ => absurd h hQ0) (fun _ _ _ _ h => by simp at h)
    (fun a' a wa' sa ta => Nat.add_le_add_right (h.2 a' wa' ((hQ _ _).1 sa).1 ta) _)
    (fun _ _ _ _ _ h => by simp at h)

/-- Row 0: only insertions. -/
theorem minOver_ins (c : Costs) {P : List α → Prop} (hP : ∀ u a, ¬ P (u ++ [a])) (τ : List α) (t : α)
    {v : Nat} (h : MinOver c P τ v) : MinOver c P (τ ++ [t]) (v + c.ins) :=
  MinOver.of_last (h.1.snoc (none, some t) (by simp) fun u hu => by simpa using hu)
    (fun _ h => by simp at h)
    (fun a' b wa' sa ta => Nat.add_le_add_right (h.2 a' wa' sa (List.append_inj' ta rfl).1) _)
    (fun _ _ _ sa _ => absurd sa (hP _ _)) (fun _ _ _ _ sa _ => absurd sa (hP _ _))

theorem minOver_nil_left (c : Costs) {P : List α → Prop} (hP : ∀ u, P u ↔ u = []) (τ : List α) :
    MinOver c P τ (τ.length * c.ins) := by
  induction τ using ListAux.snoc_induction with
  | nil => simpa using minOver_nil c ((hP []).2 rfl)
  | snoc τ t ih =>
    rw [List.length_append, List.length_singleton, Nat.succ_mul]
    exact minOver_ins c (fun u a h => by simpa using (hP _).1 h) τ t ih

theorem cell_eq (c : Costs) (s tj : α) (left diag up : Nat) :
    cell c s tj left diag up = (left + c.ins, Tag.ins) ∨
    cell c s tj left diag up = (diag + subCost c tj s, Tag.sub) ∨
    cell c s tj left diag up = (up + c.del, Tag.del) := by
  simp only [cell]
  split <;> split <;> simp

theorem cell_val (c : Costs) (s tj : α) (left diag up : Nat) :
    (cell c s tj left diag up).1 =
      min (min (up + c.del) (diag + subCost c tj s)) (left + c.ins) := by
  simp only [cell]
  generalize diag + subCost c tj s = d
  generalize up + c.del = u
  generalize left + c.ins = l
  split <;> rename_i h1 <;> split <;> rename_i h2 <;> simp only [Nat.not_lt] at h1 h2
  · rw [Nat.min_eq_right (Nat.le_of_lt h1), Nat.min_eq_right (Nat.le_of_lt h2)]
  · rw [Nat.min_eq_right (Nat.le_of_lt h1), Nat.min_eq_left h2]
  · rw [Nat.min_eq_left h1, Nat.min_eq_right (Nat.le_of_lt h2)]
  · rw [Nat.min_eq_left h1, Nat.min_eq_left h2]

/-- `RowP R τ₁ τ₂ row`: `row` has `|τ₂|+1` cells, and the cell at offset `k` satisfies
`R (τ₁ ++ τ₂.take k)`. -/
def RowP (R : List α → Cell → Prop) : List α → List α → List Cell → Prop
  | τ₁, [], row => ∃ x, row = [x] ∧ R τ₁ x
  | τ₁, t :: τ₂, row => ∃ x rest, row = x :: rest ∧ R τ₁ x ∧ RowP R (τ₁ ++ [t]) τ₂ rest

omit [DecidableEq α] in
theorem rowP_head {R : List α → Cell → Prop} {τ₁ τ₂ : List α} {row : List Cell}
    (h : RowP R τ₁ τ₂ row) : ∃ x rest, row = x :: rest ∧ R τ₁ x := by
  cases τ₂ with
  | nil => obtain ⟨x, rfl, hx⟩ := h; exact ⟨x, [], rfl, hx⟩
  | cons t τ₂ => obtain ⟨x, rest, rfl, hx, _⟩ := h; exact ⟨x, rest, rfl, hx⟩

theorem stepAux_rowP (c : Costs) (x : α) (R R' : List α → Cell → Prop)
    (hstep : ∀ tp t d u l, R tp d → R (tp ++ [t]) u → R' tp l →
      R' (tp ++ [t]) (cell c x t l.1 d.1 u.1)) :
    ∀ (τ₂ τ₁ : List α) (lc : Cell) (row : List Cell), RowP R τ₁ τ₂ row → R' τ₁ lc →
      RowP R' τ₁ τ₂ (lc :: stepAux c x lc.1 row τ₂) := by
  intro τ₂
  induction τ₂ with
  | nil =>
    intro τ₁ lc row h hl
    obtain ⟨d, rfl, hd⟩ := h
    exact ⟨lc, by simp [stepAux], hl⟩
  | cons t τ₂ ih =>
    intro τ₁ lc row h hl
    obtain ⟨d, rest, rfl, hd, hrest⟩ := h
    obtain ⟨u, rest', rfl, hu⟩ := rowP_head hrest
    refine ⟨lc, _, rfl, hl, ?_⟩
    simp only [stepAux]
    exact ih (τ₁ ++ [t]) _ (u :: rest') hrest (hstep τ₁ t d u lc hd hu hl)

omit [DecidableEq α] in
theorem rowP_getLast {R : List α → Cell → Prop} :
    ∀ (τ₂ τ₁ : List α) (row : List Cell), RowP R τ₁ τ₂ row →
      ∃ x, row.getLast? = some x ∧ R (τ₁ ++ τ₂) x := by
  intro τ₂
  induction τ₂ with
  | nil =>
    intro τ₁ row h
    obtain ⟨x, rfl, hx⟩ := h
    exact ⟨x, by simp, by simpa using hx⟩
  | cons t τ₂ ih =>
    intro τ₁ row h
    obtain ⟨x, rest, rfl, _, hrest⟩ := h
    obtain ⟨y, rest', rfl, _⟩ := rowP_head hrest
    obtain ⟨z, hz, hR⟩ := ih (τ₁ ++ [t]) _ hrest
    refine ⟨z, by rw [List.getLast?_cons_cons]; exact hz, ?_⟩
    simpa [List.append_assoc] using hR

omit [DecidableEq α] in
theorem rowP_get {R : List α → Cell → Prop} :
    ∀ (τ₂ τ₁ : List α) (row : List Cell), RowP R τ₁ τ₂ row → ∀ j, j ≤ τ₂.length →
      ∃ x, row[j]? = some x ∧ R (τ₁ ++ τ₂.take j) x := by
  intro τ₂
  induction τ₂ with
  | nil =>
    intro τ₁ row h j hj
    obtain ⟨x, rfl, hx⟩ := h
    have : j = 0 := by simpa using hj
    subst this
    exact ⟨x, by simp, by simpa using hx⟩
  | cons t τ₂ ih =>
    intro τ₁ row h j hj
    obtain ⟨x, rest, rfl, hx, hrest⟩ := h
    cases j with
    | zero => exact ⟨x, by simp, by simpa using hx⟩
    | succ j =>
      obtain ⟨z, hz, hR⟩ := ih (τ₁ ++ [t]) _ hrest j (by simpa using hj)
      refine ⟨z, by simpa using hz, ?_⟩
      simpa [List.append_assoc] using hR

omit [DecidableEq α] in
theorem range'_rowP (c : Costs) (R : List α → Cell → Prop)
    (h : ∀ τ', R τ' (τ'.length * c.ins, Tag.ins)) :
    ∀ τ₂ τ₁ : List α, RowP R τ₁ τ₂
      ((List.range' τ₁.length (τ₂.length + 1)).map fun j => (j * c.ins, Tag.ins)) := by
  intro τ₂
  induction τ₂ with
  | nil => intro τ₁; exact ⟨_, by simp [List.range'], h τ₁⟩
  | cons t τ₂ ih =>
    intro τ₁
    have := ih (τ₁ ++ [t])
    rw [List.length_append, List.length_singleton] at this
    rw [List.length_cons, List.range'_succ, List.map_cons]
    exact ⟨_, _, rfl, h τ₁, this⟩

omit [DecidableEq α] in
theorem initRow_rowP (c : Costs) (R : List α → Cell → Prop)
    (h : ∀ τ', R τ' (τ'.length * c.ins, Tag.ins)) (t : List α) :
    RowP R [] t (initRow c t) := by
  have := range'_rowP c R h t []
  rw [initRow, List.range_eq_range']
  exact this

/-- `F σ u`: the DP cells of the row that has consumed the source prefix `σ` range over the alignments with
source `u`.  Plain DP: `u = σ`; substring DP: `u <:+ σ`. -/
structure SrcFam (F : List α → List α → Prop) : Prop where
  nil : ∀ u, F [] u ↔ u = []
  snoc : ∀ σ x u a, F (σ ++ [x]) (u ++ [a]) ↔ F σ u ∧ a = x

omit [DecidableEq α] in
theorem srcFam_eq : SrcFam fun σ u : List α => u = σ :=
  ⟨fun _ => Iff.rfl, fun _ _ _ _ => List.append_singleton_inj⟩

omit [DecidableEq α] in
theorem srcFam_suffix : SrcFam fun σ u : List α => u <:+ σ :=
  ⟨fun _ => List.suffix_nil, fun σ x u a => by
    rw [List.suffix_append_inj_of_length_eq (s₁ := [a]) (s₂ := [x]) rfl]; simp⟩

omit [DecidableEq α] in
theorem SrcFam.step {F : List α → List α → Prop} (hF : SrcFam F) {σ u : List α} (h : F σ u) :
    ∀ o : Option α, F (σ ++ o.toList) (u ++ o.toList)
  | none => by simpa using h
  | some a => (hF.snoc σ a u a).2 ⟨h, rfl⟩

/-- the edit step a backtrack tag stands for -/
def Tag.IsStep : Tag → Option α × Option α → Prop
  | .del, p => ∃ a, p = (some a, none)
  | .sub, p => ∃ a b, p = (some a, some b)
  | .ins, p => ∃ b, p = (none, some b)

omit [DecidableEq α] in
theorem Tag.IsStep.ne {tg : Tag} {p : Option α × Option α} (h : tg.IsStep p) : p ≠ (none, none) := by
  cases tg <;> simp only [Tag.IsStep] at h
  · obtain ⟨a, rfl⟩ := h; simp
  · obtain ⟨a, b, rfl⟩ := h; simp
  · obtain ⟨b, rfl⟩ := h; simp

/-- The backtrack tag of a cell names a step `p` and a predecessor from which `p` realises the value. -/
def TagOK (c : Costs) (F : List α → List α → Prop) (σ τ : List α) (x : Cell) : Prop :=
  ∃ σ' τ' p v, x.2.IsStep p ∧ σ = σ' ++ p.1.toList ∧ τ = τ' ++ p.2.toList ∧
    MinOver c (F σ') τ' v ∧ x.1 = v + stepCost c p

/-- The value is the minimum, and the tag is right except where the empty alignment is admitted (the origin;
in the substring DP all of column 0, which is free). -/
def CellOK (c : Costs) (F : List α → List α → Prop) (σ τ : List α) (x : Cell) : Prop :=
  MinOver c (F σ) τ x.1 ∧ ((F σ [] ∧ τ = []) ∨ TagOK c F σ τ x)

theorem cellOK_step (c : Costs) {F : List α → List α → Prop} (hF : SrcFam F) (σ : List α) (x : α) :
    ∀ tp t d u l, CellOK c F σ tp d → CellOK c F σ (tp ++ [t]) u → CellOK c F (σ ++ [x]) tp l →
      CellOK c F (σ ++ [x]) (tp ++ [t]) (cell c x t l.1 d.1 u.1) := by
  intro tp t d u l hd hu hl
  refine ⟨by rw [cell_val]; exact minOver_step c (hF.snoc σ x) tp t hd.1 hu.1 hl.1, Or.inr ?_⟩
  rcases cell_eq c x t l.1 d.1 u.1 with h | h | h <;> rw [h]
  · exact ⟨σ ++ [x], tp, (none, some t), l.1, ⟨t, rfl⟩, by simp, rfl, hl.1, rfl⟩
  · exact ⟨σ, tp, (some x, some t), d.1, ⟨x, t, rfl⟩, rfl, rfl, hd.1, by rw [stepCost_sub]⟩
  · exact ⟨σ, tp ++ [t], (some x, none), u.1, ⟨x, rfl⟩, rfl, by simp, hu.1, rfl⟩

theorem cellOK_init (c : Costs) {F : List α → List α → Prop} (hF : SrcFam F) (τ : List α) :
    CellOK c F [] τ (τ.length * c.ins, Tag.ins) := by
  refine ⟨minOver_nil_left c hF.nil τ, ?_⟩
  rcases List.eq_nil_or_concat τ with rfl | ⟨τ', b, rfl⟩
  · exact Or.inl ⟨(hF.nil []).2 rfl, rfl⟩
  · rw [List.concat_eq_append]
    exact Or.inr ⟨[], τ', (none, some b), τ'.length * c.ins, ⟨b, rfl⟩, rfl, rfl,
      minOver_nil_left c hF.nil τ', by simp [Nat.succ_mul, stepCost]⟩

/-- One row of either DP: the new column-0 cell `lc` is the only difference. -/
theorem stepAux_cellOK (c : Costs) {F : List α → List α → Prop} (hF : SrcFam F) (σ : List α) (x : α)
    (t : List α) (row : List Cell) (lc : Cell) (h : RowP (CellOK c F σ) [] t row)
    (hl : CellOK c F (σ ++ [x]) [] lc) :
    RowP (CellOK c F (σ ++ [x])) [] t (lc :: stepAux c x lc.1 row t) :=
  stepAux_rowP c x _ _ (cellOK_step c hF σ x) t [] lc row h hl

theorem fold_cellOK (c : Costs) {F : List α → List α → Prop} (hF : SrcFam F) (t : List α)
    (f : List Cell → α → List Cell)
    (hf : ∀ σ x row, RowP (CellOK c F σ) [] t row → RowP (CellOK c F (σ ++ [x])) [] t (f row x))
    (s : List α) : RowP (CellOK c F s) [] t (s.foldl f (initRow c t)) :=
  ListAux.foldl_inv (fun σ row => RowP (CellOK c F σ) [] t row) f s _
    (initRow_rowP c _ (cellOK_init c hF) t) fun σ x row _ => hf σ x row

theorem rowStep_cellOK (c : Costs) (t σ : List α) (x : α) (row : List Cell)
    (h : RowP (CellOK c (fun σ u => u = σ) σ) [] t row) :
    RowP (CellOK c (fun σ u => u = σ) (σ ++ [x])) [] t (rowStep c t row x) := by
  obtain ⟨d0, rest, rfl, hd0⟩ := rowP_head h
  exact stepAux_cellOK c srcFam_eq σ x t _ (d0.1 + c.del, Tag.del) h
    ⟨minOver_del c (srcFam_eq.snoc σ x) (by simp) hd0.1,
      Or.inr ⟨σ, [], (some x, none), d0.1, ⟨x, rfl⟩, rfl, rfl, hd0.1, rfl⟩⟩

theorem rowStepSub_cellOK (c : Costs) (t σ : List α) (x : α) (row : List Cell)
    (h : RowP (CellOK c (fun σ u => u <:+ σ) σ) [] t row) :
    RowP (CellOK c (fun σ u => u <:+ σ) (σ ++ [x])) [] t (rowStepSub c t row x) :=
  stepAux_cellOK c srcFam_suffix σ x t row (0, Tag.del) h
    ⟨minOver_nil c (List.nil_suffix), Or.inl ⟨List.nil_suffix, rfl⟩⟩

/-- The DP value is the minimum alignment cost. -/
theorem dist_isMin (c : Costs) (s t : List α) : IsMin c s t (dist c s t) := by
  obtain ⟨x, hx, hok⟩ :=
    rowP_getLast t [] _ (fold_cellOK c srcFam_eq t _ (rowStep_cellOK c t) s)
  rw [dist, lastRow, hx]
  exact List.nil_append t ▸ hok.1

theorem rows_getElem? (c : Costs) (t : List α) :
    ∀ (s : List α) (row : List Cell) (i : Nat), i ≤ s.length →
      (rows c t row s)[i]? = some ((s.take i).foldl (rowStep c t) row) := by
  intro s
  induction s with
  | nil =>
    intro row i hi
    have : i = 0 := by simpa using hi
    subst this
    simp [rows]
  | cons x s ih =>
    intro row i hi
    cases i with
    | zero => simp [rows]
    | succ i =>
      have := ih (rowStep c t row x) i (by simpa using hi)
      simpa [rows] using this

theorem rows_ok (c : Costs) (s t : List α) (i : Nat) (hi : i ≤ s.length) (j : Nat)
    (hj : j ≤ t.length) :
    ∃ r x, (rows c t (initRow c t) s)[i]? = some r ∧ r[j]? = some x ∧
      CellOK c (fun σ u => u = σ) (s.take i) (t.take j) x := by
  obtain ⟨x, hx, hok⟩ := rowP_get t [] _ (fold_cellOK c srcFam_eq t _ (rowStep_cellOK c t) (s.take i)) j hj
  exact ⟨_, x, rows_getElem? c t s (initRow c t) i hi, hx, by simpa using hok⟩

omit [DecidableEq α] in
/-- Unfolding of `back` (Lean cannot generate the equation lemmas automatically). -/
theorem back_succ (rs : List (List Cell)) (s t : List α) (fuel i j : Nat) (acc : Alignment α) :
    back rs s t (fuel + 1) i j acc =
      if i = 0 ∧ j = 0 then some acc else
      match tagAt rs i j with
      | none => none
      | some .del =>
        match i, s[i-1]? with
        | i' + 1, some x => back rs s t fuel i' j ((some x, none) :: acc)
        | _, _ => none
      | some .sub =>
        match i, j, s[i-1]?, t[j-1]? with
        | i' + 1, j' + 1, some x, some y => back rs s t fuel i' j' ((some x, some y) :: acc)
        | _, _, _, _ => none
      | some .ins =>
        match j, t[j-1]? with
        | j' + 1, some y => back rs s t fuel i j' ((none, some y) :: acc)
        | _, _ => none := rfl

omit [DecidableEq α] in
theorem back_zero (rs : List (List Cell)) (s t : List α) (i j : Nat) (acc : Alignment α) :
    back rs s t 0 i j acc = if i = 0 ∧ j = 0 then some acc else none := rfl

omit [DecidableEq α] in
theorem back_zero_zero (rs : List (List Cell)) (s t : List α) (fuel : Nat)
    (acc : Alignment α) : back rs s t fuel 0 0 acc = some acc := by
  cases fuel
  · simp [back_zero]
  · simp [back_succ]

omit [DecidableEq α] in
theorem back_del (rs : List (List Cell)) (s t : List α) (fuel i j : Nat) (acc : Alignment α)
    (x : α) (h1 : tagAt rs (i + 1) j = some Tag.del) (h2 : s[i]? = some x) :
    back rs s t (fuel + 1) (i + 1) j acc = back rs s t fuel i j ((some x, none) :: acc) := by
  simp [back_succ, h1, h2]

omit [DecidableEq α] in
theorem back_sub (rs : List (List Cell)) (s t : List α) (fuel i j : Nat) (acc : Alignment α)
    (x y : α) (h1 : tagAt rs (i + 1) (j + 1) = some Tag.sub) (h2 : s[i]? = some x)
    (h3 : t[j]? = some y) :
    back rs s t (fuel + 1) (i + 1) (j + 1) acc =
      back rs s t fuel i j ((some x, some y) :: acc) := by
  simp [back_succ, h1, h2, h3]

omit [DecidableEq α] in
theorem back_ins (rs : List (List Cell)) (s t : List α) (fuel i j : Nat) (acc : Alignment α)
    (y : α) (h1 : tagAt rs i (j + 1) = some Tag.ins) (h3 : t[j]? = some y) :
    back rs s t (fuel + 1) i (j + 1) acc = back rs s t fuel i j ((none, some y) :: acc) := by
  simp [back_succ, h1, h3]

theorem tagAt_eq (rs : List (List Cell)) (i j : Nat) (r : List Cell) (x : Cell)
    (hr : rs[i]? = some r) (hx : r[j]? = some x) : tagAt rs i j = some x.2 := by
  simp [tagAt, hr, hx]

omit [DecidableEq α] in
theorem take_eq_snoc {s σ' : List α} {a : α} {i : Nat} (hi : i ≤ s.length)
    (h : s.take i = σ' ++ [a]) : ∃ i', i = i' + 1 ∧ σ' = s.take i' ∧ s[i']? = some a := by
  cases i with
  | zero => simp at h
  | succ i' =>
    have hlt : i' < s.length := hi
    rw [List.take_succ_eq_append_getElem hlt] at h
    obtain ⟨e1, e2⟩ := List.append_inj' h rfl
    exact ⟨i', rfl, e1.symm, by rw [List.getElem?_eq_getElem hlt]; simpa using e2⟩

omit [DecidableEq α] in
/-- One round of the backtracking loop, for a tag that names the step `p`: in terms of prefixes. -/
theorem back_step (rs : List (List Cell)) (s t : List α) (fuel i j : Nat) (acc : Alignment α)
    {tg : Tag} {p : Option α × Option α} {σ' τ' : List α} (hta : tagAt rs i j = some tg)
    (hp : tg.IsStep p) (hi : i ≤ s.length) (hj : j ≤ t.length)
    (hs : s.take i = σ' ++ p.1.toList) (ht : t.take j = τ' ++ p.2.toList) :
    ∃ i' j', back rs s t (fuel + 1) i j acc = back rs s t fuel i' j' (p :: acc) ∧
      σ' = s.take i' ∧ τ' = t.take j' ∧ i' ≤ i ∧ j' ≤ j ∧ i' + j' < i + j := by
  cases tg <;> simp only [Tag.IsStep] at hp
  · obtain ⟨a, rfl⟩ := hp
    simp only [Option.toList, List.append_nil] at hs ht
    obtain ⟨i', rfl, hσ, ha⟩ := take_eq_snoc hi hs
    exact ⟨i', j, back_del rs s t fuel i' j acc a hta ha, hσ, ht.symm, by omega, by omega, by omega⟩
  · obtain ⟨a, b, rfl⟩ := hp
    simp only [Option.toList] at hs ht
    obtain ⟨i', rfl, hσ, ha⟩ := take_eq_snoc hi hs
    obtain ⟨j', rfl, hτ, hb⟩ := take_eq_snoc hj ht
    exact ⟨i', j', back_sub rs s t fuel i' j' acc a b hta ha hb, hσ, hτ, by omega, by omega, by omega⟩
  · obtain ⟨b, rfl⟩ := hp
    simp only [Option.toList, List.append_nil] at hs ht
    obtain ⟨j', rfl, hτ, hb⟩ := take_eq_snoc hj ht
    exact ⟨i, j', back_ins rs s t fuel i j' acc b hta hb, hs.symm, hτ, by omega, by omega, by omega⟩

/-- Backtracking from cell `(i, j)` of a matrix whose cells satisfy `CellOK` yields `pre ++ core`: `core` is a
cheapest alignment of an admitted source with `t.take j`; `pre` is what the walk collects after it has reached a
cell where the empty alignment is admitted (only deletions in the free column 0; nothing in the plain DP). -/
theorem back_ok (c : Costs) {F : List α → List α → Prop} (hF : SrcFam F) (s t : List α)
    (rs : List (List Cell)) (k : Nat) (hk : k ≤ s.length)
    (h0 : ∀ i, i < k → F (s.take (i + 1)) [] → tagAt rs (i + 1) 0 = some Tag.del)
    (hrs : ∀ i, i ≤ k → ∀ j, j ≤ t.length →
      ∃ r x, rs[i]? = some r ∧ r[j]? = some x ∧ CellOK c F (s.take i) (t.take j) x) :
    ∀ fuel i j (acc : Alignment α), i ≤ k → j ≤ t.length → i + j ≤ fuel →
      ∃ pre core, back rs s t fuel i j acc = some (pre ++ core ++ acc) ∧
        WellFormed pre ∧ tgtOf pre = [] ∧ WellFormed core ∧
        srcOf pre ++ srcOf core = s.take i ∧ tgtOf core = t.take j ∧ F (s.take i) (srcOf core) ∧
        MinOver c (F (s.take i)) (t.take j) (cost c core) := by
  have base : ∀ fuel (acc : Alignment α), ∃ pre core, back rs s t fuel 0 0 acc = some (pre ++ core ++ acc) ∧
        WellFormed pre ∧ tgtOf pre = [] ∧ WellFormed core ∧
        srcOf pre ++ srcOf core = s.take 0 ∧ tgtOf core = t.take 0 ∧ F (s.take 0) (srcOf core) ∧
        MinOver c (F (s.take 0)) (t.take 0) (cost c core) := fun fuel acc =>
    ⟨[], [], by simp [back_zero_zero], wf_nil, rfl, wf_nil, rfl, rfl, (hF.nil []).2 rfl,
      minOver_nil c ((hF.nil []).2 rfl)⟩
  intro fuel
  induction fuel with
  | zero =>
    intro i j acc hi hj hf
    obtain ⟨rfl, rfl⟩ : i = 0 ∧ j = 0 := by omega
    exact base 0 acc
  | succ fuel ih =>
    intro i j acc hi hj hf
    by_cases h00 : i = 0 ∧ j = 0
    · obtain ⟨rfl, rfl⟩ := h00
      exact base _ acc
    obtain ⟨r, x, hr, hx, hmin, htag⟩ := hrs i hi j hj
    have hta := tagAt_eq rs i j r x hr hx
    rcases htag with ⟨hfree, hτ⟩ | ⟨σ', τ', p, v, hp, hσ, hτ, hv, hval⟩
    · -- the empty alignment is admitted here: the cell is in column 0, the walk goes one row up
      have hj0 : j = 0 := by
        have := congrArg List.length hτ
        simp only [List.length_take, List.length_nil] at this
        omega
      subst hj0
      obtain ⟨i', rfl⟩ : ∃ i', i = i' + 1 := ⟨i - 1, by omega⟩
      have hlt : i' < s.length := by omega
      obtain ⟨pre, core, hb, hwp, htp, hwc, hsrc, htgt, -, -⟩ :=
        ih i' 0 ((some s[i'], none) :: acc) (by omega) hj (by omega)
      refine ⟨pre ++ core ++ [(some s[i'], none)], [], ?_, ?_, ?_, wf_nil, ?_, rfl, hfree,
        minOver_nil c hfree⟩
      · rw [back_del rs s t fuel i' 0 acc s[i'] (h0 i' (by omega) hfree) (by simp [hlt]), hb]; simp
      · exact wf_append.2 ⟨wf_append.2 ⟨hwp, hwc⟩, wf_single (by simp)⟩
      · simp [htp, htgt]
      · simp [List.take_succ_eq_append_getElem hlt, ← hsrc]
    · obtain ⟨i', j', hb, rfl, rfl, hi', hj', hlt⟩ :=
        back_step rs s t fuel i j acc hta hp (Nat.le_trans hi hk) hj hσ hτ
      obtain ⟨pre, core, hbk, hwp, htp, hwc, hsrc, htgt, hFc, hm⟩ :=
        ih i' j' (p :: acc) (Nat.le_trans hi' hi) (Nat.le_trans hj' hj)
          (Nat.le_of_lt_succ (Nat.lt_of_lt_of_le hlt hf))
      refine ⟨pre, core ++ [p], ?_, hwp, htp, wf_append.2 ⟨hwc, wf_single hp.ne⟩, ?_, ?_, ?_, ?_⟩
      · rw [hb, hbk]; simp
      · rw [srcOf_append, srcOf_single, ← List.append_assoc, hsrc, hσ]
      · rw [tgtOf_append, tgtOf_single, htgt, hτ]
      · rw [srcOf_append, srcOf_single, hσ]; exact hF.step hFc _
      · rw [cost_append, cost_single, hm.unique hv, ← hval]; exact hmin

omit [DecidableEq α] in
theorem eq_nil_of_src_tgt_nil {l : Alignment α} (hw : WellFormed l) (hs : srcOf l = [])
    (ht : tgtOf l = []) : l = [] := by
  cases l with
  | nil => rfl
  | cons p l =>
    obtain ⟨_ | a, _ | b⟩ := p
    · exact absurd rfl (hw _ List.mem_cons_self)
    · simp [tgtOf] at ht
    · simp [srcOf] at hs
    · simp [srcOf] at hs

theorem alignment_ok (c : Costs) (s t : List α) :
    ∃ al, alignment c s t = some al ∧ WellFormed al ∧ srcOf al = s ∧ tgtOf al = t ∧
      cost c al = dist c s t := by
  obtain ⟨pre, al, hb, hwp, htp, hw, hsrc, htgt, hF, hm⟩ :=
    back_ok c srcFam_eq s t _ s.length (Nat.le_refl _)
      (fun i hi h => by have := congrArg List.length h; simp at this; omega)
      (rows_ok c s t) (s.length + t.length) s.length t.length [] (Nat.le_refl _) (Nat.le_refl _)
      (Nat.le_refl _)
  obtain rfl := eq_nil_of_src_tgt_nil hwp (by simpa [hF] using hsrc) htp
  simp only [List.take_length] at hF htgt hm
  exact ⟨al, by simpa [alignment] using hb, hw, hF, htgt, hm.unique (dist_isMin c s t)⟩

theorem pathCost_pathOf (c : Costs) (al : Alignment α) (hw : WellFormed al) :
    pathCost c (srcOf al) (tgtOf al) (pathOf al) = some (cost c al) := by
  induction al, hw using WellFormed.induction with
  | nil => simp [pathCost, pathOf]
  | del a al _ ih => simp [srcOf_cons, tgtOf_cons, cost_cons, pathOf, pathCost, ih, stepCost, Nat.add_comm]
  | sub a b al _ ih => simp [srcOf_cons, tgtOf_cons, cost_cons, pathOf, pathCost, ih, stepCost, Nat.add_comm]
  | ins b al _ ih => simp [srcOf_cons, tgtOf_cons, cost_cons, pathOf, pathCost, ih, stepCost, Nat.add_comm]

theorem MinOver.union {c : Costs} {P Q : List α → Prop} {t : List α} {a b : Nat}
    (ha : MinOver c P t a) (hb : MinOver c Q t b) : MinOver c (fun u => P u ∨ Q u) t (min a b) := by
  constructor
  · rcases Nat.le_total a b with h | h
    · rw [Nat.min_eq_left h]
      obtain ⟨al, w, hs, ht, hc⟩ := ha.1
      exact ⟨al, w, Or.inl hs, ht, hc⟩
    · rw [Nat.min_eq_right h]
      obtain ⟨al, w, hs, ht, hc⟩ := hb.1
      exact ⟨al, w, Or.inr hs, ht, hc⟩
  · rintro al w (hs | hs) ht
    · exact Nat.le_trans (Nat.min_le_left _ _) (ha.2 al w hs ht)
    · exact Nat.le_trans (Nat.min_le_right _ _) (hb.2 al w hs ht)

/-- The running best is the minimum over the infixes of the consumed source; the cells range over its
suffixes. -/
theorem subLoop_ok (c : Costs) (t : List α) :
    ∀ (ss σ : List α) (row : List Cell) (best : Nat),
      RowP (CellOK c (fun σ u => u <:+ σ) σ) [] t row → MinOver c (· <:+: σ) t best →
      MinOver c (· <:+: σ ++ ss) t (subLoop c t row best ss) := by
  intro ss
  induction ss with
  | nil => intro σ row best _ hb; simpa [subLoop] using hb
  | cons x ss ih =>
    intro σ row best hrow hb
    have hrow' := rowStepSub_cellOK c t σ x row hrow
    obtain ⟨y, hy, hmin⟩ := rowP_getLast t [] _ hrow'
    have hlv : lastVal (rowStepSub c t row x) = y.1 := by simp [lastVal, hy]
    have := ih (σ ++ [x]) _ (min best y.1) hrow'
      ((hb.union (List.nil_append t ▸ hmin.1)).congr fun u => by
        rw [List.infix_concat_iff, or_comm])
    simp only [subLoop, hlv]
    simpa [List.append_assoc] using this

/-- The running best of `levenshtein_distance_substring` once the source `s` is consumed. -/
def subBest (c : Costs) (t s : List α) : Nat := subLoop c t (initRow c t) (t.length * c.ins) s

theorem distSub_eq (c : Costs) (s t : List α) :
    distSub c s t = subBest c (orient s t).2 (orient s t).1 := rfl

theorem subBest_isMinInf (c : Costs) (t s : List α) : MinOver c (· <:+: s) t (subBest c t s) := by
  have := subLoop_ok c t s [] _ _ (initRow_rowP c _ (cellOK_init c srcFam_suffix) _)
    (minOver_nil_left c (fun _ => List.infix_nil) _)
  simpa [subBest] using this

/-- The least cost over the sources admitted by `P` is the least distance from such a source. -/
theorem minOver_dist (c : Costs) {P : List α → Prop} (tgt : List α) (v : Nat)
    (h : MinOver c P tgt v) : (∃ u, P u ∧ dist c u tgt = v) ∧ (∀ u, P u → v ≤ dist c u tgt) := by
  obtain ⟨⟨a, wa, sa, ta, ca⟩, lb⟩ := h
  have key : ∀ u, P u → v ≤ dist c u tgt := by
    intro u hu
    obtain ⟨b, wb, sb, tb, cb⟩ := (dist_isMin c u tgt).1
    rw [← cb]
    exact lb b wb (sb ▸ hu) tb
  refine ⟨⟨srcOf a, sa, ?_⟩, key⟩
  have h1 := (dist_isMin c (srcOf a) tgt).2 a wa rfl ta
  have h2 := key _ sa
  omega

def swapAl (al : Alignment α) : Alignment α := al.map Prod.swap

omit [DecidableEq α] in
theorem srcOf_swapAl (al : Alignment α) : srcOf (swapAl al) = tgtOf al := by
  induction al with
  | nil => rfl
  | cons p al ih =>
    have : swapAl (p :: al) = p.swap :: swapAl al := rfl
    rw [this, srcOf_cons, tgtOf_cons, ih]; rfl

omit [DecidableEq α] in
theorem tgtOf_swapAl (al : Alignment α) : tgtOf (swapAl al) = srcOf al := by
  induction al with
  | nil => rfl
  | cons p al ih =>
    have : swapAl (p :: al) = p.swap :: swapAl al := rfl
    rw [this, srcOf_cons, tgtOf_cons, ih]; rfl

omit [DecidableEq α] in
theorem swapAl_swapAl (al : Alignment α) : swapAl (swapAl al) = al := by
  simp [swapAl]

omit [DecidableEq α] in
theorem wf_swapAl {al : Alignment α} (h : WellFormed al) : WellFormed (swapAl al) := by
  intro p hp
  simp only [swapAl, List.mem_map] at hp
  obtain ⟨q, hq, rfl⟩ := hp
  have := h q hq
  obtain ⟨q1, q2⟩ := q
  intro e
  apply this
  simp only [Prod.swap, Prod.mk.injEq] at e
  rw [e.1, e.2]

theorem cost_swapAl (c : Costs) (hc : c.ins = c.del) (al : Alignment α) :
    cost c (swapAl al) = cost c al := by
  induction al with
  | nil => rfl
  | cons p al ih =>
    have : swapAl (p :: al) = p.swap :: swapAl al := rfl
    rw [this, cost_cons, cost_cons, ih]
    congr 1
    obtain ⟨_ | a, _ | b⟩ := p <;> simp [stepCost, Prod.swap, hc, eq_comm]

theorem isMin_swap (c : Costs) (hc : c.ins = c.del) {s t : List α} {v : Nat}
    (h : IsMin c s t v) : IsMin c t s v := by
  obtain ⟨⟨a, wa, sa, ta, ca⟩, lb⟩ := h
  refine ⟨⟨swapAl a, wf_swapAl wa, by rw [srcOf_swapAl, ta], by rw [tgtOf_swapAl, sa],
    by rw [cost_swapAl c hc, ca]⟩, ?_⟩
  intro b wb sb tb
  have := lb (swapAl b) (wf_swapAl wb) (by rw [srcOf_swapAl, tb]) (by rw [tgtOf_swapAl, sb])
  rwa [cost_swapAl c hc] at this

theorem dist_symm (c : Costs) (hc : c.ins = c.del) (s t : List α) : dist c s t = dist c t s :=
  MinOver.unique (P := (· = s)) (dist_isMin c s t) (isMin_swap c hc (dist_isMin c t s))

/-- With unit costs every step costs 1, except a match. -/
theorem cost_unit_add_matches (al : Alignment α) (hw : WellFormed al) :
    cost unit al + (al.filter fun p => p.1 = p.2).length = al.length := by
  induction al, hw using WellFormed.induction with
  | nil => rfl
  | del a al _ ih => simp [cost_cons, stepCost, unit] at ih ⊢; omega
  | sub a b al _ ih => by_cases h : a = b <;> simp [cost_cons, stepCost, unit, h] at ih ⊢ <;> omega
  | ins b al _ ih => simp [cost_cons, stepCost, unit] at ih ⊢; omega

theorem matches_add_dels_le (al : Alignment α) (hw : WellFormed al) :
    (al.filter fun p => p.1 = p.2).length + (al.filter fun p => p.1 = none).length
      ≤ (al.filter fun p => p.2 ≠ none).length := by
  induction al, hw using WellFormed.induction with
  | nil => simp
  | del a al _ ih => simpa using ih
  | sub a b al _ ih => by_cases h : a = b <;> simp [h] at ih ⊢ <;> omega
  | ins b al _ ih => simp at ih ⊢; omega

theorem editStats_sum (al : Alignment α) (hw : WellFormed al) :
    (editStats al).2.2.2.2 + (editStats al).2.2.1 + (editStats al).2.2.2.1 = cost unit al := by
  have h1 := cost_unit_add_matches al hw
  have h2 := matches_add_dels_le al hw
  have h3 := List.length_filter_le (fun p : Option α × Option α => p.2 ≠ none) al
  simp only [editStats]
  omega

theorem fromLists_eq (ref hyp : List α) (al : Alignment α)
    (h : alignment unit hyp ref = some al) :
    Summary.fromLists ref hyp = some ⟨1, ref.length, dist unit ref hyp, (editStats al).2.2.2.2,
      (editStats al).2.2.1, (editStats al).2.2.2.1⟩ := by
  simp only [Summary.fromLists, h]

end

theorem Summary.add_assoc (a b c : Summary) : (a.add b).add c = a.add (b.add c) := by
  simp [Summary.add, Nat.add_assoc]

theorem Summary.zero_add (a : Summary) : Summary.zero.add a = a := by
  cases a; simp [Summary.add, Summary.zero]

theorem Summary.add_zero (a : Summary) : a.add Summary.zero = a := by
  cases a; simp [Summary.add, Summary.zero]

theorem foldl_summary_add (ys : List Summary) (a : Summary) :
    ys.foldl Summary.add a = a.add (ys.foldl Summary.add Summary.zero) := by
  induction ys generalizing a with
  | nil => simp [Summary.add_zero]
  | cons y ys ih =>
    simp only [List.foldl_cons]
    rw [ih (a.add y), ih (Summary.zero.add y), Summary.zero_add, Summary.add_assoc]

/-- `Counter.update` over all summaries: the bag union. -/
theorem aggregateConfusions_eq_flatten (xs : List (List (Option α × Option α))) :
    aggregateConfusions xs = xs.flatten := by
  have h : ∀ acc (ys : List (List (Option α × Option α))),
      ys.foldl (· ++ ·) acc = acc ++ ys.flatten := by
    intro acc ys
    induction ys generalizing acc with
    | nil => simp
    | cons y ys ih => simp [ih]
  simpa [aggregateConfusions] using h [] xs

section
variable [DecidableEq α]

def idAl (s : List α) : Alignment α := s.map (fun a => (some a, some a))

theorem idAl_props (c : Costs) (s : List α) :
    WellFormed (idAl s) ∧ srcOf (idAl s) = s ∧ tgtOf (idAl s) = s ∧ cost c (idAl s) = 0 := by
  induction s with
  | nil => exact ⟨wf_nil, rfl, rfl, rfl⟩
  | cons a s ih =>
    obtain ⟨hw, hs, ht, hc⟩ := ih
    exact ⟨wf_cons.2 ⟨by simp, hw⟩, congrArg (a :: ·) hs, congrArg (a :: ·) ht, by
      rw [idAl, List.map_cons, cost_cons, ← idAl, hc]; simp [stepCost]⟩

theorem zero_cost_eq (al : Alignment α) (hw : WellFormed al) (h : cost unit al = 0) :
    srcOf al = tgtOf al := by
  induction al, hw using WellFormed.induction with
  | nil => rfl
  | del a al _ ih => simp [cost_cons, stepCost, unit] at h
  | ins b al _ ih => simp [cost_cons, stepCost, unit] at h
  | sub a b al _ ih =>
    rw [cost_cons] at h
    by_cases hab : a = b
    · subst hab; exact congrArg (a :: ·) (ih (by omega))
    · simp [stepCost, unit, hab] at h

theorem dist_self (c : Costs) (s : List α) : dist c s s = 0 := by
  obtain ⟨hw, hs, ht, hc⟩ := idAl_props c s
  have := (dist_isMin c s s).2 (idAl s) hw hs ht
  omega

theorem dist_unit_eq_zero_iff (s t : List α) : dist unit s t = 0 ↔ s = t := by
  constructor
  · intro h
    obtain ⟨al, hw, hs, ht, hc⟩ := (dist_isMin unit s t).1
    rw [← hs, ← ht]; exact zero_cost_eq al hw (by omega)
  · rintro rfl; exact dist_self unit s

end

end Lev
