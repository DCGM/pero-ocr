/-
Lemmas for C16.  Three layers:
1. any record of operations: every confidence is SELECTED from its inputs (`maxL`/`minL`/`getProb`/letter and
   transformer confidences return entries of the matrix), or is `max 0 (p - q)` / a midpoint of two of them;
2. ordered fields: `maxL`/`minL` are `List.max?`/`List.min?`, and the range theorems follow from layer 1;
3. definedness of the CTC branch, again for any record of operations: every window contains the frame of its
   own character.
-/
import Mathlib.Algebra.Order.Field.Basic
import PeroVerif.Model.Confidence
import PeroVerif.Lemmas.ListAux

namespace Conf
open PB Bag

variable {R : Type}

/-! ## 1. Any record of operations: outputs are selected from the inputs -/

theorem maxR_eq (o : COps R) (a b : R) : maxR o a b = a ∨ maxR o a b = b := by
  unfold maxR; split <;> simp

theorem minR_eq (o : COps R) (a b : R) : minR o a b = a ∨ minR o a b = b := by
  unfold minR; split <;> simp

theorem foldl_sel_mem (f : R → R → R) (hf : ∀ a b, f a b = a ∨ f a b = b) (l : List R) (x : R) :
    l.foldl f x ∈ x :: l := by
  induction l generalizing x with
  | nil => simp
  | cons y ys ih =>
    rcases List.mem_cons.1 (ih (f x y)) with h | h
    · rw [List.foldl_cons, h]
      rcases hf x y with h' | h' <;> simp [h']
    · simp [h]

theorem maxL_mem {o : COps R} {l : List R} {m : R} (h : maxL o l = some m) : m ∈ l := by
  cases l with
  | nil => cases h
  | cons x xs => cases h; exact foldl_sel_mem _ (maxR_eq o) xs x

theorem maxL_eq_none {o : COps R} {l : List R} : maxL o l = none ↔ l = [] := by
  cases l <;> simp [maxL]

theorem minL_eq_none {o : COps R} {l : List R} : minL o l = none ↔ l = [] := by
  cases l <;> simp [minL]

/-- `if b: row[c] = 0` -/
def zeroIf (o : COps R) (b : Prop) [Decidable b] (r : List R) (c : Nat) : List R :=
  if b then zeroAt o r c else r

/-- one frame of `masked_probs[:, :-1]`: own and neighbouring labels zeroed, last column (blank) dropped -/
def maskRow (o : COps R) (labels : List Nat) (i label : Nat) (r : List R) : List R :=
  (zeroIf o (i + 1 < labels.length) (zeroIf o (i > 0) (zeroAt o r label) (labels.getD (i - 1) 0))
    (labels.getD (i + 1) 0)).dropLast

@[simp] theorem length_zeroAt (o : COps R) (r : List R) (c : Nat) : (zeroAt o r c).length = r.length :=
  List.length_set

@[simp] theorem length_zeroIf (o : COps R) (b : Prop) [Decidable b] (r : List R) (c : Nat) :
    (zeroIf o b r c).length = r.length := by
  unfold zeroIf; split <;> simp

theorem length_maskRow (o : COps R) (labels : List Nat) (i label : Nat) (r : List R) :
    (maskRow o labels i label r).length = r.length - 1 := by
  rw [maskRow, List.length_dropLast, length_zeroIf, length_zeroIf, length_zeroAt]

theorem zeroAt_getElem? {o : COps R} {r : List R} {c j : Nat} {x : R} (h : (zeroAt o r c)[j]? = some x) :
    x = o.zero ∨ (r[j]? = some x ∧ j ≠ c) := by
  rw [zeroAt, List.getElem?_set] at h
  split at h
  · split at h
    · exact .inl (Option.some.inj h).symm
    · cases h
  · exact .inr ⟨h, fun e => ‹¬c = j› e.symm⟩

theorem zeroIf_getElem? {o : COps R} {b : Prop} [Decidable b] {r : List R} {c j : Nat} {x : R}
    (h : (zeroIf o b r c)[j]? = some x) : x = o.zero ∨ (r[j]? = some x ∧ (b → j ≠ c)) := by
  unfold zeroIf at h
  split at h
  · exact (zeroAt_getElem? h).imp_right fun h' => ⟨h'.1, fun _ => h'.2⟩
  · exact .inr ⟨h, fun hb => absurd hb ‹¬b›⟩

theorem maskRow_getElem? {o : COps R} {labels : List Nat} {i label : Nat} {r : List R} {j : Nat}
    {x : R} (h : (maskRow o labels i label r)[j]? = some x) :
    x = o.zero ∨ (r[j]? = some x ∧ j + 1 < r.length ∧ j ≠ label ∧
      (i > 0 → j ≠ labels.getD (i - 1) 0) ∧ (i + 1 < labels.length → j ≠ labels.getD (i + 1) 0)) := by
  rw [maskRow, List.getElem?_dropLast] at h
  split at h
  · rename_i hj
    simp only [length_zeroIf, length_zeroAt] at hj
    rcases zeroIf_getElem? h with h | ⟨h, h3⟩
    · exact .inl h
    rcases zeroIf_getElem? h with h | ⟨h, h2⟩
    · exact .inl h
    rcases zeroAt_getElem? h with h | ⟨h, h1⟩
    · exact .inl h
    exact .inr ⟨h, Nat.add_lt_of_lt_sub hj, h1, h2, h3⟩
  · cases h

theorem mem_maskRow {o : COps R} {labels : List Nat} {i label : Nat} {r : List R} {x : R}
    (h : x ∈ maskRow o labels i label r) : x = o.zero ∨ x ∈ r := by
  obtain ⟨j, hj⟩ := List.mem_iff_getElem?.1 h
  exact (maskRow_getElem? hj).imp_right fun h' => List.mem_of_getElem? h'.1

/-- `masked_probs[:, :-1]` of label `i`, flattened: what `get_line_confidence` takes the maximum of -/
def window (o : COps R) (probs : List (List R)) (labels : List Nat) (i label lb nb : Nat) : List R :=
  (((probs.drop lb).take (nb - lb)).map (maskRow o labels i label)).flatten

theorem labelConfidence_eq (o : COps R) (probs : List (List R)) (labels al : List Nat) (i lb : Nat) :
    labelConfidence o probs labels al i lb =
      match labels[i]?, al[i]?, al[i+1]? with
      | some label, some a, some a' =>
        match probs[a]? with
        | none => none
        | some row =>
          match row[label]? with
          | none => none
          | some labelProb =>
            match maxL o (window o probs labels i label lb (Gen.Confidence.nextBorder a a').toNat) with
            | none => none
            | some other =>
              some (maxR o o.zero (o.sub labelProb other), (Gen.Confidence.nextBorder a a').toNat)
      | _, _, _ => none := rfl

theorem labelConfidence_eq_some {o : COps R} {probs : List (List R)} {labels al : List Nat}
    {i lb : Nat} {c : R} {nb : Nat} :
    labelConfidence o probs labels al i lb = some (c, nb) ↔
    ∃ label a a' row labelProb other,
      labels[i]? = some label ∧ al[i]? = some a ∧ al[i+1]? = some a' ∧ probs[a]? = some row ∧
      row[label]? = some labelProb ∧ nb = (Gen.Confidence.nextBorder a a').toNat ∧
      maxL o (window o probs labels i label lb nb) = some other ∧
      c = maxR o o.zero (o.sub labelProb other) := by
  rw [labelConfidence_eq]
  constructor
  · intro h
    split at h
    · rename_i label a a' h1 h2 h3
      split at h
      · cases h
      · rename_i row h4
        split at h
        · cases h
        · rename_i labelProb h5
          split at h
          · cases h
          · rename_i other h6
            cases h
            exact ⟨label, a, a', row, labelProb, other, h1, h2, h3, h4, h5, rfl, h6, rfl⟩
    · cases h
  · rintro ⟨label, a, a', row, labelProb, other, h1, h2, h3, h4, h5, rfl, h6, rfl⟩
    simp only [h1, h2, h3, h4, h5, h6]

theorem mem_window {o : COps R} {probs : List (List R)} {labels : List Nat} {i label lb nb : Nat} {x : R} :
    x ∈ window o probs labels i label lb nb ↔
      ∃ r ∈ (probs.drop lb).take (nb - lb), x ∈ maskRow o labels i label r := by
  simp only [window, List.mem_flatten, List.mem_map]
  exact ⟨fun ⟨_, ⟨r, hr, e⟩, hx⟩ => ⟨r, hr, e ▸ hx⟩, fun ⟨r, hr, hx⟩ => ⟨_, ⟨r, hr, rfl⟩, hx⟩⟩

theorem mem_of_mem_slice {probs : List (List R)} {lb k : Nat} {r : List R}
    (h : r ∈ (probs.drop lb).take k) : r ∈ probs :=
  List.mem_of_mem_drop (List.mem_of_mem_take h)

theorem window_max {o : COps R} {probs : List (List R)} {labels : List Nat} {i label lb nb : Nat}
    {other : R} (h : maxL o (window o probs labels i label lb nb) = some other) :
    other = o.zero ∨ ∃ r ∈ probs, other ∈ r := by
  obtain ⟨r, hr, hx⟩ := mem_window.1 (maxL_mem h)
  exact (mem_maskRow hx).imp_right fun hx => ⟨r, mem_of_mem_slice hr, hx⟩

theorem lineConfAux_some {o : COps R} {probs : List (List R)} {labels al : List Nat} :
    ∀ {n i lb : Nat} {cs : List R}, lineConfAux o probs labels al n i lb = some cs →
      cs.length = n ∧ ∀ c ∈ cs, ∃ j lb' nb, labelConfidence o probs labels al j lb' = some (c, nb) := by
  intro n
  induction n with
  | zero => intro i lb cs h; cases h; simp
  | succ n ih =>
    intro i lb cs h
    rw [lineConfAux] at h
    split at h
    · cases h
    · rename_i c nb hlc
      obtain ⟨cs', hrec, rfl⟩ := Option.map_eq_some_iff.1 h
      obtain ⟨h1, h2⟩ := ih hrec
      exact ⟨by simp [h1], List.forall_mem_cons.2 ⟨⟨i, lb, nb, hlc⟩, h2⟩⟩

theorem transformer_mem {probs : List (List R)} {labels : List Nat} {cs : List R}
    (h : lineConfidenceTransformer probs labels = some cs) :
    cs.length = labels.length ∧ ∀ c ∈ cs, ∃ row ∈ probs, c ∈ row := by
  unfold lineConfidenceTransformer at h
  refine ⟨by simpa using ListAux.length_of_mapM_option h, fun c hc => ?_⟩
  obtain ⟨i, -, hi⟩ := ListAux.mem_of_mapM_option h hc
  split at hi
  · rename_i row l hr hl
    exact ⟨row, List.mem_of_getElem? hr, List.mem_of_getElem? hi⟩
  · cases hi

theorem letterGroups_flatten (fr : List (Nat × R)) :
    ((letterGroups fr).map (·.2)).flatten = fr.map (·.2) := by
  induction fr with
  | nil => rfl
  | cons x r ih =>
    rw [letterGroups]
    split
    · rename_i s' g gs heq
      rw [heq] at ih
      split <;> simpa using ih
    · rename_i heq
      rw [heq] at ih
      simpa using ih

theorem letterConfidence_mem {o : COps R} {probs : List (List R)} {alignment : List Nat} {blank : Nat}
    {cs : List R} (h : letterConfidence o probs alignment blank = some cs) :
    ∀ c ∈ cs, ∃ row ∈ probs, c ∈ row := by
  unfold letterConfidence at h
  split at h
  · cases h
  · rename_i fr hfr
    intro c hc
    obtain ⟨g, hgm, hgc⟩ := ListAux.mem_of_mapM_option h hc
    have : c ∈ fr.map (·.2) := letterGroups_flatten fr ▸
      List.mem_flatten.2 ⟨g.2, List.mem_map_of_mem (List.mem_filter.1 hgm).1, maxL_mem hgc⟩
    obtain ⟨x, hx, rfl⟩ := List.mem_map.1 this
    obtain ⟨t, -, ht⟩ := ListAux.mem_of_mapM_option hfr hx
    split at ht
    · rename_i row s hr hs
      obtain ⟨p, hp, rfl⟩ := Option.map_eq_some_iff.1 ht
      exact ⟨row, List.mem_of_getElem? hr, List.mem_of_getElem? hp⟩
    · cases ht

/-- `getProb` returns `1` or one of its inputs: whatever holds of all of them holds of the result -/
theorem getProbAux_sel (o : COps R) (P : R → Prop) (best : List (Nat × R)) :
    ∀ (lastId : Int) (lastProb worst : R), P lastProb → P worst → (∀ b ∈ best, P b.2) →
      P (getProbAux o lastId lastProb worst best) := by
  have hmin : ∀ a b, P a → P b → P (minR o a b) := by
    intro a b ha hb; rcases minR_eq o a b with h | h <;> rw [h] <;> assumption
  have hmax : ∀ a b, P a → P b → P (maxR o a b) := by
    intro a b ha hb; rcases maxR_eq o a b with h | h <;> rw [h] <;> assumption
  induction best with
  | nil => intro lastId lastProb worst h1 h2 _; exact hmin _ _ h2 h1
  | cons x r ih =>
    intro lastId lastProb worst h1 h2 h3
    obtain ⟨hp, h3'⟩ := List.forall_mem_cons.1 h3
    unfold getProbAux
    split
    · exact ih _ _ _ hp (hmin _ _ h2 h1) h3'
    · exact ih _ _ _ (hmax _ _ hp h1) h2 h3'

theorem getProb_sel (o : COps R) (P : R → Prop) {best : List (Nat × R)} (h1 : P o.one)
    (h : ∀ b ∈ best, P b.2) : P (getProb o best) :=
  getProbAux_sel o P best _ _ _ h1 h1 h

/-- the test compares the threshold with a value that does not depend on it -/
theorem lineConfidentEnough_eq (o : COps R) (probs : List (List R)) (thr : R) :
    lineConfidentEnough o probs thr = ((probs.mapM (maxL o)).bind (minL o)).map (o.lt thr) := by
  unfold lineConfidentEnough
  cases probs.mapM (maxL o) <;> rfl

theorem median_eq_some {o : COps R} {two : R} {xs : List R} {m : R} (h : median o two xs = some m) :
    m ∈ xs ∨ ∃ a ∈ xs, ∃ b ∈ xs, m = o.div (o.add a b) two := by
  have hs : ∀ {k : Nat} {y : R}, (xs.mergeSort fun a b => !(o.lt b a))[k]? = some y → y ∈ xs :=
    fun hk => List.mem_mergeSort.1 (List.mem_of_getElem? hk)
  unfold median at h
  dsimp only at h
  split at h
  · cases h
  · split at h
    · exact .inl (hs h)
    · split at h
      · rename_i a b ha hb
        exact .inr ⟨a, hs ha, b, hs hb, (Option.some.inj h).symm⟩
      · cases h

theorem median_defined {o : COps R} {two : R} {xs : List R} (hne : xs ≠ []) :
    ∃ m, median o two xs = some m := by
  unfold median
  dsimp only
  have hpos : 0 < (xs.mergeSort fun a b => !(o.lt b a)).length := by
    rw [List.length_mergeSort]; exact List.length_pos_iff.2 hne
  generalize (xs.mergeSort fun a b => !(o.lt b a)) = s at hpos
  have h2 : s.length / 2 < s.length := Nat.div_lt_self hpos (by decide)
  rw [if_neg (Nat.ne_of_gt hpos), List.getElem?_eq_getElem h2,
    List.getElem?_eq_getElem (Nat.lt_of_le_of_lt (Nat.sub_le _ _) h2)]
  split <;> exact ⟨_, rfl⟩

/-! ## 2. Ordered fields -/

section Ordered
variable [Field R] [LinearOrder R]

/-- the record of operations of an ordered field (the Props file's `C16.COps.of` is this, by `rfl`) -/
def cops (R : Type) [Field R] [LinearOrder R] : COps R :=
  { zero := 0, one := 1, add := (· + ·), mul := (· * ·), lt := fun a b => decide (a < b),
    div := (· / ·), sub := (· - ·) }

@[simp] theorem cops_zero : (cops R).zero = 0 := rfl
@[simp] theorem cops_one : (cops R).one = 1 := rfl
@[simp] theorem cops_lt (a b : R) : (cops R).lt a b = decide (a < b) := rfl
@[simp] theorem cops_sub (a b : R) : (cops R).sub a b = a - b := rfl
@[simp] theorem cops_add (a b : R) : (cops R).add a b = a + b := rfl
@[simp] theorem cops_div (a b : R) : (cops R).div a b = a / b := rfl

theorem maxR_cops : maxR (cops R) = max := by
  funext a b
  simp only [maxR, cops_lt, decide_eq_true_eq]
  split
  · exact (max_eq_right (le_of_lt ‹_›)).symm
  · exact (max_eq_left (not_lt.1 ‹_›)).symm

theorem minR_cops : minR (cops R) = min := by
  funext a b
  simp only [minR, cops_lt, decide_eq_true_eq]
  split
  · exact (min_eq_right (le_of_lt ‹_›)).symm
  · exact (min_eq_left (not_lt.1 ‹_›)).symm

theorem maxL_cops (l : List R) : maxL (cops R) l = l.max? := by
  cases l with
  | nil => rfl
  | cons x xs => rw [maxL, List.max?_cons', maxR_cops]

theorem minL_cops (l : List R) : minL (cops R) l = l.min? := by
  cases l with
  | nil => rfl
  | cons x xs => rw [minL, List.min?_cons', minR_cops]

/-- `maxL` is the maximum: an element that dominates all others -/
theorem maxL_spec {l : List R} {m : R} (h : maxL (cops R) l = some m) : m ∈ l ∧ ∀ x ∈ l, x ≤ m :=
  List.max?_eq_some_iff.1 (maxL_cops l ▸ h)

theorem minL_spec {l : List R} {m : R} (h : minL (cops R) l = some m) : m ∈ l ∧ ∀ x ∈ l, m ≤ x :=
  List.min?_eq_some_iff.1 (minL_cops l ▸ h)

variable [IsStrictOrderedRing R]

/-- a CTC confidence is `max 0 (p - q)` with `p` the posterior of the label in its frame and `q ≥ 0` -/
theorem labelConfidence_bounds {probs : List (List R)} (hp : ∀ row ∈ probs, ∀ x ∈ row, 0 ≤ x)
    {labels al : List Nat} {i lb : Nat} {c : R} {nb : Nat}
    (h : labelConfidence (cops R) probs labels al i lb = some (c, nb)) :
    0 ≤ c ∧ ∃ row ∈ probs, ∃ p ∈ row, c ≤ p := by
  obtain ⟨label, a, a', row, labelProb, other, -, -, -, h4, h5, -, h7, rfl⟩ := labelConfidence_eq_some.1 h
  have hr := List.mem_of_getElem? h4
  have hx := List.mem_of_getElem? h5
  have hoth : 0 ≤ other := by
    rcases window_max h7 with h0 | ⟨r, hr, hx⟩
    · exact h0.ge
    · exact hp r hr other hx
  rw [maxR_cops]
  exact ⟨le_max_left _ _, row, hr, labelProb, hx, max_le (hp row hr _ hx) (sub_le_self _ hoth)⟩

theorem getLineConfidence_bounds {probs : List (List R)} (hp : ∀ row ∈ probs, ∀ x ∈ row, 0 ≤ x)
    {labels alignment : List Nat} {cs : List R}
    (h : getLineConfidence (cops R) probs labels alignment = some cs) :
    cs.length = labels.length ∧ ∀ c ∈ cs, 0 ≤ c ∧ ∃ row ∈ probs, ∃ p ∈ row, c ≤ p := by
  unfold getLineConfidence at h
  split at h
  · obtain ⟨h1, h2⟩ := transformer_mem h
    exact ⟨h1, fun c hc => let ⟨row, hr, hx⟩ := h2 c hc; ⟨hp row hr c hx, row, hr, c, hx, le_refl c⟩⟩
  · obtain ⟨h1, h2⟩ := lineConfAux_some h
    exact ⟨h1, fun c hc => let ⟨_, _, _, hl⟩ := h2 c hc; labelConfidence_bounds hp hl⟩

theorem median_rangeL {lo hi : R} (xs : List R) (m : R) (hx : ∀ x ∈ xs, lo ≤ x ∧ x ≤ hi)
    (h : median (cops R) 2 xs = some m) : lo ≤ m ∧ m ≤ hi := by
  rcases median_eq_some h with hm | ⟨a, ha, b, hb, rfl⟩
  · exact hx m hm
  · -- lo = (lo + lo) / 2 ≤ (a + b) / 2 ≤ (hi + hi) / 2 = hi
    have hm : ∀ {x y : R}, x ≤ y → x / 2 ≤ y / 2 := fun h => div_le_div_of_nonneg_right h zero_le_two
    rw [cops_div, cops_add, ← add_self_div_two lo, ← add_self_div_two hi]
    exact ⟨hm (add_le_add (hx a ha).1 (hx b hb).1), hm (add_le_add (hx a ha).2 (hx b hb).2)⟩

end Ordered

/-! ## 3. Definedness (any record of operations) -/

/-- one label is defined when its window `[lb, border)` contains the aligned frame -/
theorem labelConfidence_defined {o : COps R} {C : ℕ} (hC : 2 ≤ C) {probs : List (List R)}
    (hrow : ∀ row ∈ probs, row.length = C) {labels al : List Nat} {i lb label a a' : Nat}
    (h1 : labels[i]? = some label) (h2 : al[i]? = some a) (h3 : al[i+1]? = some a')
    (hlab : label < C) (ha : a < probs.length) (hlb : lb ≤ a)
    (hnb : a < (Gen.Confidence.nextBorder a a').toNat) :
    ∃ c, labelConfidence o probs labels al i lb = some (c, (Gen.Confidence.nextBorder a a').toNat) := by
  have hlb' : lb < probs.length := Nat.lt_of_le_of_lt hlb ha
  have hl : label < probs[a].length := hrow _ (List.getElem_mem ha) ▸ hlab
  -- the first frame of the window has `C - 1 ≥ 1` entries after masking
  have hne : window o probs labels i label lb (Gen.Confidence.nextBorder a a').toNat ≠ [] := by
    have hmem : probs[lb] ∈ (probs.drop lb).take ((Gen.Confidence.nextBorder a a').toNat - lb) :=
      List.mem_of_getElem? (i := 0) (by
        rw [List.getElem?_take_of_lt (Nat.sub_pos_of_lt (Nat.lt_of_le_of_lt hlb hnb)),
          List.getElem?_drop, Nat.add_zero, List.getElem?_eq_getElem hlb'])
    obtain ⟨x, hx⟩ := List.exists_mem_of_length_pos (l := maskRow o labels i label probs[lb]) (by
      rw [length_maskRow, hrow _ (List.getElem_mem hlb')]; omega)
    exact List.ne_nil_of_mem (mem_window.2 ⟨_, hmem, hx⟩)
  obtain ⟨m, hm⟩ := Option.ne_none_iff_exists'.1 (mt maxL_eq_none.1 hne)
  exact ⟨_, labelConfidence_eq_some.2 ⟨label, a, a', _, _, m, h1, h2, h3,
    List.getElem?_eq_getElem ha, List.getElem?_eq_getElem hl, rfl, hm, rfl⟩⟩

theorem lineConfAux_defined {o : COps R}
    (hB : ∀ a a' : Nat, a < a' → a < (Gen.Confidence.nextBorder a a').toNat ∧
      (Gen.Confidence.nextBorder a a').toNat ≤ a')
    {C : ℕ} (hC : 2 ≤ C) {probs : List (List R)} (hrow : ∀ row ∈ probs, row.length = C)
    {labels al : List Nat} (hlen : al.length = labels.length + 1)
    (hlab : ∀ l ∈ labels, l < C) (hal : al.Pairwise (· < ·))
    (hT : ∀ j (hj : j < al.length), j < labels.length → al[j] < probs.length) :
    ∀ (n i lb : Nat), i + n = labels.length → (∀ (hi : i < al.length), lb ≤ al[i]) →
      ∃ cs, lineConfAux o probs labels al n i lb = some cs := by
  intro n
  induction n with
  | zero => intro i lb _ _; exact ⟨[], rfl⟩
  | succ n ih =>
    intro i lb hin hlb
    have hi : i < labels.length := hin ▸ Nat.lt_add_of_pos_right (Nat.succ_pos n)
    have hi2 : i + 1 < al.length := hlen ▸ Nat.succ_lt_succ hi
    have hi1 : i < al.length := Nat.lt_of_succ_lt hi2
    obtain ⟨hb1, hb2⟩ := hB _ _ (List.pairwise_iff_getElem.1 hal i (i + 1) hi1 hi2 (Nat.lt_succ_self i))
    obtain ⟨c, hc⟩ := labelConfidence_defined (o := o) hC hrow (labels := labels) (al := al) (lb := lb)
      (List.getElem?_eq_getElem hi) (List.getElem?_eq_getElem hi1) (List.getElem?_eq_getElem hi2)
      (hlab _ (List.getElem_mem hi)) (hT i hi1 hi) (hlb hi1) hb1
    obtain ⟨cs, hcs⟩ := ih (i + 1) _ (by rw [← hin, Nat.add_right_comm, Nat.add_assoc]) (fun _ => hb2)
    exact ⟨c :: cs, by rw [lineConfAux, hc]; simp [hcs]⟩

theorem lineConfidence_definedL {o : COps R}
    (hB : ∀ a a' : Nat, a < a' → a < (Gen.Confidence.nextBorder a a').toNat ∧
      (Gen.Confidence.nextBorder a a').toNat ≤ a')
    (hS : ∀ T : Nat, T ≤ (Gen.Confidence.sentinel (T : Int)).toNat)
    {C : ℕ} (hC : 2 ≤ C) {probs : List (List R)} (hrow : ∀ row ∈ probs, row.length = C)
    {labels alignment : List Nat} (hl : labels.length = alignment.length)
    (hlab : ∀ l ∈ labels, l < C) (hal : alignment.Pairwise (· < ·))
    (hT : ∀ a ∈ alignment, a < probs.length) :
    ∃ cs, lineConfidence o probs labels alignment = some cs := by
  unfold lineConfidence
  apply lineConfAux_defined hB hC hrow (by simp [hl]) hlab
  · rw [List.pairwise_append]
    refine ⟨hal, List.pairwise_singleton _ _, fun a ha b hb => ?_⟩
    rw [List.mem_singleton.1 hb]
    exact lt_of_lt_of_le (hT a ha) (hS _)
  · intro j hj hj'
    rw [List.getElem_append_left (by omega)]
    exact hT _ (List.getElem_mem _)
  · omega
  · intro _; exact Nat.zero_le _

/-- one frame per label, rows of length `C`, labels `< C`: every `probs[i][labels[i]]` exists -/
theorem transformer_definedL {C : ℕ} {probs : List (List R)} {labels : List Nat}
    (hrow : ∀ row ∈ probs, row.length = C) (hlen : probs.length = labels.length)
    (hlab : ∀ l ∈ labels, l < C) : ∃ cs, lineConfidenceTransformer probs labels = some cs := by
  unfold lineConfidenceTransformer
  apply ListAux.mapM_option_defined
  intro i hi
  have hi' : i < labels.length := List.mem_range.1 hi
  have hp : i < probs.length := hlen ▸ hi'
  have hl : labels[i] < probs[i].length :=
    hrow probs[i] (List.getElem_mem hp) ▸ hlab labels[i] (List.getElem_mem hi')
  rw [List.getElem?_eq_getElem hp, List.getElem?_eq_getElem hi']
  exact ⟨_, List.getElem?_eq_getElem hl⟩

end Conf
