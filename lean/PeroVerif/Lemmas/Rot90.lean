/- Helper lemmas for C18: what `rotSrc` / `rotShape` are in each of the four rotations, the four rotations as one
case principle (`rot_cases`), and the one-dimensional mirror `i ↦ n - 1 - i` that each of them is built from. -/
import PeroVerif.Model.Rot90

namespace Rot

theorem rotSrc_mod0 {rot : Nat} (h : rot % 4 = 0) (H W i j : Nat) :
    rotSrc rot H W i j = (i, j) := by
  simp only [rotSrc, h]

theorem rotSrc_mod1 {rot : Nat} (h : rot % 4 = 1) (H W i j : Nat) :
    rotSrc rot H W i j = (j, W - 1 - i) := by
  simp only [rotSrc, h]

theorem rotSrc_mod2 {rot : Nat} (h : rot % 4 = 2) (H W i j : Nat) :
    rotSrc rot H W i j = (H - 1 - i, W - 1 - j) := by
  simp only [rotSrc, h]

theorem rotSrc_mod3 {rot : Nat} (h : rot % 4 = 3) (H W i j : Nat) :
    rotSrc rot H W i j = (H - 1 - j, i) := by
  simp only [rotSrc, h]

theorem rotShape_odd {rot : Nat} (h : rot % 2 = 1) (H W : Nat) : rotShape rot H W = (W, H) := by
  simp only [rotShape, h, if_true]

theorem rotShape_even {rot : Nat} (h : rot % 2 = 0) (H W : Nat) : rotShape rot H W = (H, W) := by
  unfold rotShape
  rw [h]
  rfl

/-- The four rotations, once: what holds of these four pairs (shape, source map) holds of `np.rot90(·, rot)`. -/
theorem rot_cases (rot H W : Nat) (P : Nat × Nat → (Nat → Nat → Nat × Nat) → Prop)
    (h0 : P (H, W) fun i j => (i, j)) (h1 : P (W, H) fun i j => (j, W - 1 - i))
    (h2 : P (H, W) fun i j => (H - 1 - i, W - 1 - j)) (h3 : P (W, H) fun i j => (H - 1 - j, i)) :
    P (rotShape rot H W) (rotSrc rot H W) := by
  have par (k : Nat) (h : rot % 4 = k) : rot % 2 = k % 2 := h ▸ (Nat.mod_mod_of_dvd rot (by decide)).symm
  match h : rot % 4, Nat.mod_lt rot (by decide : 0 < 4) with
  | 0, _ => rw [rotShape_even (par 0 h), funext fun i => funext (rotSrc_mod0 h H W i)]; exact h0
  | 1, _ => rw [rotShape_odd (par 1 h), funext fun i => funext (rotSrc_mod1 h H W i)]; exact h1
  | 2, _ => rw [rotShape_even (par 2 h), funext fun i => funext (rotSrc_mod2 h H W i)]; exact h2
  | 3, _ => rw [rotShape_odd (par 3 h), funext fun i => funext (rotSrc_mod3 h H W i)]; exact h3

theorem flip_lt {n i : Nat} (h : i < n) : n - 1 - i < n := by omega

theorem flip_inj {n i i' : Nat} (h : i < n) (h' : i' < n) (e : n - 1 - i = n - 1 - i') : i = i' := by omega

/-- `rotate_layout` mirrors with `n - x` where the index mirrored by `np.rot90` is `n - 1 - x` -/
theorem flip_succ {n i : Nat} (h : i < n) : (n : Int) - i = ((n - 1 - i : Nat) : Int) + 1 := by omega

theorem within_one (a d : Int) (h : d = 0 ∨ d = 1) : (a + d - a).natAbs ≤ 1 := by omega

end Rot
