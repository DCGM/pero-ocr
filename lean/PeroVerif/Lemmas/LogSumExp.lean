/-
`logsumexp` of a list of reals: what makes `exp (log_softmax x)` a probability vector that does not
change when a constant is added to the logits (C16).
-/
import Mathlib.Analysis.SpecialFunctions.Log.Basic

namespace LogSumExp

theorem sum_exp_pos {x : List ℝ} (hne : x ≠ []) : 0 < (x.map Real.exp).sum :=
  List.sum_pos _ (fun _ h => let ⟨a, _, e⟩ := List.mem_map.1 h; e ▸ Real.exp_pos a) (by simpa using hne)

theorem sum_exp_add (x : List ℝ) (c : ℝ) :
    ((x.map (· + c)).map Real.exp).sum = (x.map Real.exp).sum * Real.exp c := by
  rw [List.map_map, ← List.sum_map_mul_right]
  exact congrArg List.sum (List.map_congr_left fun a _ => Real.exp_add a c)

theorem log_sum_exp_add (x : List ℝ) (c : ℝ) (hne : x ≠ []) :
    Real.log ((x.map (· + c)).map Real.exp).sum = Real.log (x.map Real.exp).sum + c := by
  rw [sum_exp_add, Real.log_mul (sum_exp_pos hne).ne' (Real.exp_pos c).ne', Real.log_exp]

/-- every logit is below the `logsumexp` of its frame -/
theorem le_log_sum_exp {x : List ℝ} {a : ℝ} (h : a ∈ x) : a ≤ Real.log (x.map Real.exp).sum :=
  (Real.le_log_iff_exp_le (sum_exp_pos (List.ne_nil_of_mem h))).2 <| List.single_le_sum
    (fun _ h => let ⟨a, _, e⟩ := List.mem_map.1 h; e ▸ (Real.exp_pos a).le) _ (List.mem_map_of_mem h)

/-- subtracting the `logsumexp` normalises: `Σ exp (a - lse x) = 1` -/
theorem sum_exp_sub_log_sum_exp {x : List ℝ} (hne : x ≠ []) :
    ((x.map (· - Real.log (x.map Real.exp).sum)).map Real.exp).sum = 1 := by
  simp only [sub_eq_add_neg]
  rw [sum_exp_add, Real.exp_neg, Real.exp_log (sum_exp_pos hne), mul_inv_cancel₀ (sum_exp_pos hne).ne']

end LogSumExp
