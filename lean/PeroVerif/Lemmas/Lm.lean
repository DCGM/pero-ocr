/-
Lemmas for C03: the LM score and state along a transcript; the first arg-max of the bag
(`Bag.argmaxIdx`, an instance of the shared scan `ListAux.scanFirst`); forgetting the LM fields commutes
with the search at LM scale 0; normalising positive totals.
-/
import Mathlib.Algebra.Order.Field.Basic
import Mathlib.Algebra.BigOperators.Group.List.Basic
import Mathlib.Algebra.Order.BigOperators.Group.List
import Mathlib.Algebra.BigOperators.Ring.List
import PeroVerif.Spec.CtcMass
import PeroVerif.Spec.Lm
import PeroVerif.Model.Bag
import PeroVerif.Lemmas.ListAux

namespace LmL
open PB

/-! ### LM score / state along a prefix -/

theorem lmState_snoc {H R : Type} (lm : LM H R) (h0 : H) (ℓ : List ℕ) (c : ℕ) :
    lmState lm h0 (ℓ ++ [c]) = lm.adv (lmState lm h0 ℓ) c := by
  simp [lmState, List.foldl_append]

theorem lmScore_snoc {R : Type} [CommSemiring R] [LinearOrder R] {H : Type} (lm : LM H R) (h0 : H)
    (ℓ : List ℕ) (c : ℕ) :
    lmScore (Ops.of R) lm h0 (ℓ ++ [c]) =
      lmScore (Ops.of R) lm h0 ℓ * lm.prob (lmState lm h0 ℓ) c := by
  induction ℓ generalizing h0 with
  | nil => simp [lmScore, lmState, Ops.of]
  | cons a r ih =>
    have := ih (lm.adv h0 a)
    simp only [lmScore, lmState, List.cons_append, List.foldl_cons, Ops.of] at this ⊢
    rw [this, mul_assoc]

/-! ### `argmaxIdx` -/

theorem go_eq_scanFirst {R : Type} (lt : R → R → Bool) (best : R) (bi i : ℕ) (ys : List R) :
    Bag.argmaxIdx.go lt best bi i ys = (ListAux.scanFirst lt best bi i ys).1 := by
  induction ys generalizing best bi i with
  | nil => rfl
  | cons y ys ih =>
    simp only [Bag.argmaxIdx.go, ListAux.scanFirst]
    split <;> exact ih ..

theorem argmaxIdx_eq_none {R : Type} (lt : R → R → Bool) (ks : List R) :
    Bag.argmaxIdx lt ks = none ↔ ks = [] := by
  cases ks <;> simp [Bag.argmaxIdx]

/-- the first arg-max is invariant under maps that preserve the comparison -/
theorem argmaxIdx_map {A B : Type} (ltA : A → A → Bool) (ltB : B → B → Bool) (f : A → B)
    (hf : ∀ a b, ltB (f a) (f b) = ltA a b) (l : List A) :
    Bag.argmaxIdx ltB (l.map f) = Bag.argmaxIdx ltA l := by
  have go : ∀ (ys : List A) (best : A) (bi i : ℕ),
      Bag.argmaxIdx.go ltB (f best) bi i (ys.map f) = Bag.argmaxIdx.go ltA best bi i ys := by
    intro ys
    induction ys with
    | nil => intros; rfl
    | cons y ys ih =>
      intro best bi i
      simp only [List.map_cons, Bag.argmaxIdx.go, hf]
      split <;> exact ih ..
  cases l with
  | nil => rfl
  | cons x xs => simp only [List.map_cons, Bag.argmaxIdx, go]

section Argmax
variable {R : Type} [LinearOrder R]

theorem strictWeak_lt : ListAux.StrictWeak fun a b : R => decide (a < b) :=
  ⟨by simp,
    fun h h' => by
      simp only [decide_eq_true_eq, decide_eq_false_iff_not, not_lt] at *
      exact lt_of_le_of_lt h' h,
    fun h => by
      simp only [decide_eq_true_eq, decide_eq_false_iff_not, not_lt] at *
      exact le_of_lt h⟩

theorem argmaxIdx_some (ks : List R) (i : ℕ)
    (h : Bag.argmaxIdx (fun a b => decide (a < b)) ks = some i) :
    ∃ m, ks[i]? = some m ∧ (∀ x ∈ ks, x ≤ m) ∧ ∀ j x, j < i → ks[j]? = some x → x < m := by
  cases ks with
  | nil => simp [Bag.argmaxIdx] at h
  | cons x xs =>
    simp only [Bag.argmaxIdx, Option.some.injEq, go_eq_scanFirst] at h
    subst h
    obtain ⟨h1, h2, h3⟩ := ListAux.scanFirst_head_spec strictWeak_lt x xs
    exact ⟨_, h1, fun y hy => by simpa using h2 y hy, fun j y hj hy => by simpa using h3 j y hj hy⟩

/-- a unique strict maximiser of `key` is what the first arg-max returns, in any order -/
theorem argmax_unique {α : Type} (l : List α) (key : α → R) (a : α) (ha : a ∈ l)
    (hmax : ∀ b ∈ l, b ≠ a → key b < key a) :
    (Bag.argmaxIdx (fun a b => decide (a < b)) (l.map key)).bind (l[·]?) = some a := by
  cases hr : Bag.argmaxIdx (fun a b => decide (a < b)) (l.map key) with
  | none =>
    rw [argmaxIdx_eq_none] at hr
    simp at hr; subst hr; simp at ha
  | some i =>
    obtain ⟨m, hm, hle, -⟩ := argmaxIdx_some _ _ hr
    simp only [Option.bind_some]
    rw [List.getElem?_map] at hm
    cases hli : l[i]? with
    | none => rw [hli] at hm; simp at hm
    | some b =>
      rw [hli] at hm
      simp only [Option.map_some, Option.some.injEq] at hm
      by_cases hba : b = a
      · rw [hba]
      · exfalso
        have hbl : b ∈ l := List.mem_of_getElem? hli
        have h1 := hmax b hbl hba
        have h2 := hle (key a) (List.mem_map_of_mem ha)
        rw [← hm] at h2
        exact absurd h1 (not_lt.mpr h2)

end Argmax

/-! ### LM scale 0: forgetting the LM fields commutes with the search -/

section Strip
variable {R : Type} [CommSemiring R] [LinearOrder R] {H : Type}

/-- forget the LM fields (the LM-free search carries `plm = 1`, `h = ()`) -/
def strip (e : Entry H R) : Entry Unit R :=
  { pre := e.pre, last := e.last, pb := e.pb, pnb := e.pnb, plm := 1, h := () }

theorem extJ_strip (S : List ℕ) (beam : List (Entry H R)) (row : List R) (e : Entry H R) (c : ℕ) :
    extJ (Ops.of R) S (beam.map strip) row (strip e) c = extJ (Ops.of R) S beam row e c := by
  unfold extJ
  rw [List.any_map]
  rfl

theorem stayPnb_strip (S : List ℕ) (beam : List (Entry H R)) (row : List R) (q : Entry H R) :
    stayPnb (Ops.of R) S (beam.map strip) row (strip q) = stayPnb (Ops.of R) S beam row q := by
  unfold stayPnb
  rw [List.find?_map]
  have hfun : ((fun e : Entry Unit R => e.pre == (strip q).pre.dropLast) ∘ (strip : Entry H R → _)) =
      (fun e : Entry H R => e.pre == q.pre.dropLast) := rfl
  rw [hfun]
  cases List.find? (fun e : Entry H R => e.pre == q.pre.dropLast) beam with
  | none => rfl
  | some e => rfl

theorem candidates_strip (lm : LM H R) (S : List ℕ) (beam : List (Entry H R)) (row : List R) :
    candidates (Ops.of R) (trivialLM (Ops.of R)) S (beam.map strip) row =
      (candidates (Ops.of R) lm S beam row).map strip := by
  unfold candidates
  rw [List.flatMap_map, List.map_flatMap]
  congr 1
  funext e
  simp only [List.map_append, List.map_map, List.map_cons, List.map_nil]
  congr 1
  · apply List.map_congr_left
    intro c _
    have h1 := extJ_strip S beam row e c
    simp only [Function.comp, strip, trivialLM] at h1 ⊢
    have : (Ops.of R).mul 1 (Ops.of R).one = (1 : R) := by simp [Ops.of]
    rw [h1, this]
  · simp only [stayPnb_strip]
    rfl

theorem topK_strip (k : ℕ) (l : List (Entry H R)) :
    topK (Ops.of R) (fusedKey (Ops.of R) 0 1) k (l.map strip) =
      (topK (Ops.of R) (fusedKey (Ops.of R) 0 1) k l).map strip := by
  unfold topK
  rw [List.map_take]
  congr 1
  symm
  apply List.map_mergeSort
  intro a _ b _
  rfl

theorem step_strip (lm : LM H R) (sel : R → Bool) (k : ℕ) (beam : List (Entry H R)) (row : List R) :
    step (Ops.of R) (trivialLM (Ops.of R)) sel k (topK (Ops.of R) (fusedKey (Ops.of R) 0 1))
        (beam.map strip) row =
      (step (Ops.of R) lm sel k (topK (Ops.of R) (fusedKey (Ops.of R) 0 1)) beam row).map strip := by
  unfold step
  simp only
  split
  · simp only [List.map_map]
    apply List.map_congr_left
    intro e _
    rfl
  · rw [candidates_strip lm, List.filter_map, ← topK_strip, List.length_map]
    rfl

theorem foldl_strip (lm : LM H R) (sel : R → Bool) (k : ℕ) (M : List (List R))
    (beam : List (Entry H R)) :
    M.foldl (step (Ops.of R) (trivialLM (Ops.of R)) sel k
        (topK (Ops.of R) (fusedKey (Ops.of R) 0 1))) (beam.map strip) =
      (M.foldl (step (Ops.of R) lm sel k (topK (Ops.of R) (fusedKey (Ops.of R) 0 1))) beam).map
        strip := by
  induction M generalizing beam with
  | nil => rfl
  | cons row M ih => rw [List.foldl_cons, List.foldl_cons, step_strip lm, ih]

end Strip

/-! ### normalising positive totals -/

section Field
variable {R : Type} [Field R] [LinearOrder R] [IsStrictOrderedRing R]

theorem norm_sum_one (ts : List R) (hpos : ∀ t ∈ ts, 0 < t) (hne : ts ≠ []) :
    (ts.map fun t => t / ts.sum).sum = 1 := by
  have hS := List.sum_pos ts hpos hne
  simp only [div_eq_mul_inv]
  rw [List.sum_map_mul_right, List.map_id']
  exact mul_inv_cancel₀ (ne_of_gt hS)

theorem norm_range (ts : List R) (hpos : ∀ t ∈ ts, 0 < t) :
    ∀ p ∈ ts.map (fun t => t / ts.sum), 0 < p ∧ p ≤ 1 := by
  intro p hp
  obtain ⟨t, ht, rfl⟩ := List.mem_map.mp hp
  have hne : ts ≠ [] := List.ne_nil_of_mem ht
  have hS := List.sum_pos ts hpos hne
  have hle : t ≤ ts.sum := List.single_le_sum (fun x hx => le_of_lt (hpos x hx)) t ht
  exact ⟨div_pos (hpos t ht) hS, (div_le_one hS).mpr hle⟩

theorem argmax_norm (ts : List R) (hpos : ∀ t ∈ ts, 0 < t) :
    Bag.argmaxIdx (fun a b => decide (a < b)) (ts.map fun t => t / ts.sum) =
      Bag.argmaxIdx (fun a b => decide (a < b)) ts := by
  by_cases hne : ts = []
  · subst hne; rfl
  · have hS := List.sum_pos ts hpos hne
    apply argmaxIdx_map
    intro a b
    simp only [div_lt_div_iff_of_pos_right hS]

end Field

end LmL
