/-
Helper lemmas for C15: the cut-and-append expression of the merge step, window splitting and
regrouping, the merged text as a function of the texts alone, and the invariant of the overlap search.

`Batteries.Data.List.Basic` is imported only because it defines `List.IsChain`, which the statement
of `C15.windows_chain` uses (core Lean 4.33 does not have it).
-/
import Batteries.Data.List.Basic
import PeroVerif.Model.Merge

namespace Merge

/-- `r[:len(r) - (o+1)//2] + p[o//2:]` -/
def cut {γ : Type} (r p : List γ) (o : Nat) : List γ :=
  r.take (r.length - (o + 1) / 2) ++ p.drop (o / 2)

/-- The Python slices of the merge expression, for an overlap that fits into `r`: both bounds are
casts of natural numbers (`Nat` division and subtraction commute with the cast by `rfl` /
`Int.natCast_sub`). -/
theorem slice_cut {γ : Type} (r p : List γ) (o : Nat) (h : o ≤ r.length) :
    Py.slice r none (some (Py.len r - Py.floorDiv ((o : Int) + 1) 2)) ++
      Py.slice p (some (Py.floorDiv (o : Int) 2)) none = cut r p o := by
  have ha : (o + 1) / 2 ≤ r.length := Nat.le_trans (by omega) h
  have e1 : Py.len r - ((o : Int) + 1) / 2 = ((r.length - (o + 1) / 2 : Nat) : Int) := by
    rw [Int.natCast_sub ha]; rfl
  have e2 : (o : Int) / 2 = ((o / 2 : Nat) : Int) := rfl
  rw [Py.floorDiv_two, Py.floorDiv_two, e1, e2, Py.slice_to _ _ (Int.natCast_nonneg _),
    Py.slice_from _ _ (Int.natCast_nonneg _), Int.toNat_natCast, Int.toNat_natCast, cut]

theorem length_cut {γ : Type} (r p : List γ) (o : Nat) :
    (cut r p o).length = (r.length - (o + 1) / 2) + (p.length - o / 2) := by
  rw [cut, List.length_append, List.length_take_of_le (Nat.sub_le ..), List.length_drop]

/-- the two cuts together remove exactly the overlap -/
theorem half_add_half (o : Nat) : (o + 1) / 2 + o / 2 = o := by omega

theorem length_cut_add {γ : Type} (r p : List γ) (o : Nat) (hr : o ≤ r.length) (hp : o ≤ p.length) :
    (cut r p o).length + o = r.length + p.length := by
  have ha : (o + 1) / 2 ≤ r.length := Nat.le_trans (Nat.le.intro (half_add_half o)) hr
  have hb : o / 2 ≤ p.length := Nat.le_trans (Nat.div_le_self ..) hp
  calc _ = (r.length - (o + 1) / 2) + (p.length - o / 2) + ((o + 1) / 2 + o / 2) := by
        rw [length_cut, half_add_half]
    _ = _ := by rw [Nat.add_add_add_comm, Nat.sub_add_cancel ha, Nat.sub_add_cancel hb]

theorem cut_zero {γ : Type} (r p : List γ) : cut r p 0 = r ++ p := by
  simp [cut]

/-- Taking at most the kept part of `r` out of `cut r p o` only sees `r`. -/
theorem take_cut {γ : Type} (r p : List γ) (o k : Nat) (hk : k ≤ r.length - (o + 1) / 2) :
    (cut r p o).take k = r.take k := by
  rw [cut, List.take_append_of_le_length (by rwa [List.length_take_of_le (Nat.sub_le ..)]),
    List.take_take, Nat.min_eq_left hk]

theorem windowsAux_cons (width mlw fuel start e : Nat) :
    ∃ rest, windowsAux width mlw fuel start e = (start, e) :: rest := by
  cases fuel with
  | zero => exact ⟨[], rfl⟩
  | succ fuel => unfold windowsAux; split <;> exact ⟨_, rfl⟩

/-- consecutive windows overlap by `mlw / 4` and have width `mlw`; only the last can reach `width` -/
theorem windowsAux_chain (width mlw : Nat) : ∀ (fuel start e : Nat), e = start + mlw →
    List.IsChain (fun a b : Nat × Nat => b.1 + mlw / 4 = a.2 ∧ b.2 = b.1 + mlw ∧ a.2 < width)
      (windowsAux width mlw fuel start e)
  | 0, _, _, _ => List.IsChain.singleton _
  | fuel + 1, start, e, he => by
    unfold windowsAux
    split
    next hlt =>
      have hs : start + (mlw - mlw / 4) + mlw / 4 = e := by
        rw [Nat.add_assoc, Nat.sub_add_cancel (Nat.div_le_self ..), he]
      have ih := windowsAux_chain width mlw fuel (start + (mlw - mlw / 4)) (e + (mlw - mlw / 4))
        (by rw [he, Nat.add_right_comm])
      obtain ⟨rest, hr⟩ := windowsAux_cons width mlw fuel (start + (mlw - mlw / 4)) (e + (mlw - mlw / 4))
      rw [hr] at ih ⊢
      exact List.IsChain.cons_cons ⟨hs, by rw [he, Nat.add_right_comm], hlt⟩ ih
    next => exact List.IsChain.singleton _

/-- with enough fuel the last window reaches the end of the line -/
theorem windowsAux_last (width mlw : Nat) : ∀ (fuel start e : Nat),
    width ≤ e + fuel * (mlw - mlw / 4) →
    ∀ l ∈ (windowsAux width mlw fuel start e).getLast?, width ≤ l.2
  | 0, _, _, hw, l, hl => by
    cases hl; simpa using hw
  | fuel + 1, start, e, hw, l, hl => by
    unfold windowsAux at hl
    split at hl
    next hlt =>
      obtain ⟨rest, hr⟩ := windowsAux_cons width mlw fuel (start + (mlw - mlw / 4)) (e + (mlw - mlw / 4))
      rw [hr, List.getLast?_cons_cons, ← hr] at hl
      exact windowsAux_last width mlw fuel _ _ (by rw [Nat.succ_mul] at hw; omega) l hl
    next hge => cases hl; exact Nat.le_of_not_lt hge

theorem getElem?_regroup {γ : Type} : ∀ (spans : List Nat) (xs : List γ) (k : Nat), k < spans.length →
    (regroup spans xs)[k]? = some ((xs.drop (spans.take k).sum).take (spans.getD k 0)) := by
  intro spans
  induction spans with
  | nil => intro xs k h; simp at h
  | cons s r ih =>
    intro xs k h
    cases k with
    | zero => simp [regroup]
    | succ k =>
      have hk : k < r.length := by simpa using h
      simp [regroup, ih (xs.drop s) k hk, List.drop_drop]

section textonly
variable {α β : Type} [DecidableEq α]

/-- `merge_transcriptions_and_logits` on the transcriptions alone -/
def mergeTexts : List (List α) → Option (List α)
  | [] => none
  | t :: ts => some (ts.foldl (fun t p => (mergeStep (β := Unit) (t, []) (p, [])).1) t)

theorem foldl_mergeStep_fst (ps : List (List α × List β)) (acc : List α × List β) :
    (ps.foldl mergeStep acc).1 =
      (ps.map (·.1)).foldl (fun t p => (mergeStep (β := Unit) (t, []) (p, [])).1) acc.1 := by
  induction ps generalizing acc with
  | nil => rfl
  | cons p ps ih => exact ih (mergeStep acc p)

/-- the merged text is a function of the texts of the parts -/
theorem mergeAll_fst (parts : List (List α × List β)) :
    (mergeAll parts).map (·.1) = mergeTexts (parts.map (·.1)) := by
  cases parts with
  | nil => rfl
  | cons p ps =>
    show some (List.foldl mergeStep (shrink p) (ps.map shrink)).1 = _
    rw [foldl_mergeStep_fst, List.map_map]
    rfl
end textonly

section ovspec
variable {α : Type} [DecidableEq α]

/-- distance between the last `i` symbols of `t1` and the first `i` of `t2` (numerator of `cer` in `find_best_overlap`) -/
def ovDist (t1 t2 : List α) (i : Nat) : Nat :=
  Lev.dist Lev.unit (t1.drop (t1.length - i)) (t2.take i)

/-- `a/x < b/y ≤ c/z` gives `a/x < c/z`, for fractions compared by cross-multiplication -/
theorem cross_lt_of_lt_of_le {a x b y c z : Nat} (hz : 0 < z)
    (h1 : a * y < b * x) (h2 : b * z ≤ c * y) : a * z < c * x := by
  apply Nat.lt_of_mul_lt_mul_right (a := y)
  calc a * z * y = a * y * z := Nat.mul_right_comm ..
    _ < b * x * z := Nat.mul_lt_mul_of_pos_right h1 hz
    _ = b * z * x := Nat.mul_right_comm ..
    _ ≤ c * y * x := Nat.mul_le_mul_right _ h2
    _ = c * x * y := Nat.mul_right_comm ..

/-- The error rate of overlap length `i` as a fraction `ovNum i / ovDen i`; length 0 stands for the
initial `best_cer = 1`, so that the search is a first-minimum search over `0..n`. -/
def ovNum (d : Nat → Nat) (i : Nat) : Nat := if i = 0 then 1 else d i
def ovDen (i : Nat) : Nat := if i = 0 then 1 else i

theorem ovDen_pos (i : Nat) : 0 < ovDen i := by
  unfold ovDen; split
  · exact Nat.one_pos
  · exact Nat.pos_of_ne_zero ‹_›

/-- after the candidates `1..n`, the state holds the first minimum of `ovNum i / ovDen i` over `0..n` -/
def OvInv (d : Nat → Nat) (n : Nat) (st : Nat × Nat × Nat) : Prop :=
  st.1 = ovNum d st.2.2 ∧ st.2.1 = ovDen st.2.2 ∧ st.2.2 ≤ n ∧
  ∀ i, i ≤ n → st.1 * ovDen i ≤ ovNum d i * st.2.1 ∧ (i < st.2.2 → st.1 * ovDen i < ovNum d i * st.2.1)

theorem ovInv_step (t1 t2 : List α) (n : Nat) (st : Nat × Nat × Nat) (h : OvInv (ovDist t1 t2) n st) :
    OvInv (ovDist t1 t2) (n + 1) (overlapStep t1 t2 st n) := by
  obtain ⟨hnum, hden, hb, hmin⟩ := h
  have hn : ovNum (ovDist t1 t2) (n + 1) = ovDist t1 t2 (n + 1) := if_neg (Nat.succ_ne_zero n)
  have hd : ovDen (n + 1) = n + 1 := if_neg (Nat.succ_ne_zero n)
  show OvInv _ _ (if ovDist t1 t2 (n + 1) * st.2.1 < st.1 * (n + 1) then (ovDist t1 t2 (n + 1), n + 1, n + 1) else st)
  split
  next hupd =>
    -- the new candidate beats the best so far, which is at most everything before
    refine ⟨hn.symm, hd.symm, Nat.le_refl _, fun i hi => ?_⟩
    rcases Nat.lt_or_eq_of_le hi with hlt | rfl
    · have := cross_lt_of_lt_of_le (ovDen_pos i) hupd (hmin i (Nat.le_of_lt_succ hlt)).1
      exact ⟨Nat.le_of_lt this, fun _ => this⟩
    · exact ⟨by rw [hn, hd]; exact Nat.le_refl _, fun h => absurd h (Nat.lt_irrefl _)⟩
  next hno =>
    refine ⟨hnum, hden, Nat.le_succ_of_le hb, fun i hi => ?_⟩
    rcases Nat.lt_or_eq_of_le hi with hlt | rfl
    · exact hmin i (Nat.le_of_lt_succ hlt)
    · exact ⟨by rw [hn, hd]; exact Nat.le_of_not_lt hno, fun h => absurd hb (Nat.not_le_of_lt (Nat.lt_of_succ_lt h))⟩

theorem foldl_overlapStep_inv (t1 t2 : List α) (m : Nat) :
    OvInv (ovDist t1 t2) m ((List.range m).foldl (overlapStep t1 t2) (1, 1, 0)) := by
  induction m with
  | zero =>
    refine ⟨rfl, rfl, Nat.le_refl _, fun i hi => ?_⟩
    obtain rfl := Nat.le_zero.mp hi
    exact ⟨Nat.le_refl _, fun h => absurd h (Nat.lt_irrefl _)⟩
  | succ m ih => rw [List.range_succ, List.foldl_append]; exact ovInv_step t1 t2 m _ ih

end ovspec

end Merge
