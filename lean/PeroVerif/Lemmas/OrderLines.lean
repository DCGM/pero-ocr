/- Lemmas for the `order_lines_vertical` model (C18): the sort by key commutes with maps of the payload (so three sorts
with the same keys are one sort of the zipped triples), permutes, and sorts. -/
import PeroVerif.Model.OrderLines
import PeroVerif.Lemmas.ListAux

namespace OrdL

/-- `sortByKey` with an arbitrary starting accumulator -/
def sortInto {α : Type} (acc l : List (Rat × α)) : List (Rat × α) := l.foldl (fun acc x => insertBy x acc) acc

theorem sortByKey_eq_sortInto {α : Type} (l : List (Rat × α)) : sortByKey l = sortInto [] l := rfl

theorem insertBy_map {α γ : Type} (f : α → γ) (x : Rat × α) (l : List (Rat × α)) :
    insertBy (Prod.map id f x) (l.map (Prod.map id f)) = (insertBy x l).map (Prod.map id f) := by
  induction l with
  | nil => rfl
  | cons y ys ih =>
    simp only [List.map_cons, insertBy, Prod.map_fst, id_eq]
    split
    · simp only [List.map_cons]
    · simp only [List.map_cons, ih]

theorem sortByKey_map {α γ : Type} (f : α → γ) (l : List (Rat × α)) :
    sortByKey (l.map (Prod.map id f)) = (sortByKey l).map (Prod.map id f) := by
  unfold sortByKey
  rw [List.foldl_map]
  exact List.foldl_hom (List.map (Prod.map id f)) (g₁ := fun acc x => insertBy x acc)
    (g₂ := fun acc x => insertBy (Prod.map id f x) acc) (init := []) fun acc x => insertBy_map f x acc

theorem reorder_map {α γ : Type} (f : α → γ) (keys : List Rat) (xs : List α) :
    reorder keys (xs.map f) = (reorder keys xs).map f := by
  unfold reorder
  rw [List.zip_map_right, sortByKey_map, List.map_map, List.map_map]
  rfl

theorem reorder_zip {β γ : Type} (ks : List Rat) (bs : List β) (cs : List γ) (h : bs.length = cs.length) :
    (reorder ks bs).zip (reorder ks cs) = reorder ks (bs.zip cs) :=
  (List.zip_of_prod (by rw [← reorder_map, List.map_fst_zip (Nat.le_of_eq h)])
    (by rw [← reorder_map, List.map_snd_zip (Nat.le_of_eq h.symm)])).symm

theorem insertBy_perm {α : Type} (x : Rat × α) (l : List (Rat × α)) : (insertBy x l).Perm (x :: l) := by
  induction l with
  | nil => exact List.Perm.refl _
  | cons y ys ih =>
    simp only [insertBy]
    split
    · exact List.Perm.refl _
    · exact ((List.Perm.cons y ih).trans (List.Perm.swap x y ys))

theorem sortByKey_perm {α : Type} (l : List (Rat × α)) : (sortByKey l).Perm l :=
  ListAux.foldl_inv (fun pre acc => acc.Perm pre) _ l [] (List.Perm.refl _) fun pre a acc _ h =>
    (insertBy_perm a acc).trans ((h.cons a).trans (List.perm_append_singleton a pre).symm)

theorem insertBy_sorted {α : Type} (x : Rat × α) (l : List (Rat × α))
    (hl : l.Pairwise (fun a b => a.1 ≤ b.1)) : (insertBy x l).Pairwise (fun a b => a.1 ≤ b.1) := by
  induction l with
  | nil => simp [insertBy]
  | cons y ys ih =>
    rw [List.pairwise_cons] at hl
    simp only [insertBy]
    split
    · rename_i hlt
      refine List.Pairwise.cons ?_ (List.Pairwise.cons hl.1 hl.2)
      intro b hb
      rcases List.mem_cons.mp hb with rfl | hb
      · exact Rat.le_of_lt hlt
      · exact Rat.le_trans (Rat.le_of_lt hlt) (hl.1 b hb)
    · rename_i hnlt
      refine List.Pairwise.cons ?_ (ih hl.2)
      intro b hb
      rcases List.mem_cons.mp ((insertBy_perm x ys).mem_iff.mp hb) with rfl | hb
      · exact Rat.not_lt.mp hnlt
      · exact hl.1 b hb

theorem sortByKey_sorted {α : Type} (l : List (Rat × α)) :
    ((sortByKey l).map Prod.fst).Pairwise (fun a b => a ≤ b) :=
  List.pairwise_map.mpr <| ListAux.foldl_inv (fun _ acc => acc.Pairwise fun a b => a.1 ≤ b.1) _ l []
    List.Pairwise.nil fun _ a acc _ h => insertBy_sorted a acc h

theorem map_fst_zip_sublist {α : Type} (ks : List Rat) (xs : List α) :
    ((ks.zip xs).map Prod.fst).Sublist ks := by
  induction ks generalizing xs with
  | nil => simp
  | cons k ks ih =>
    cases xs with
    | nil => simp
    | cons x xs => exact (ih xs).cons_cons k

end OrdL
