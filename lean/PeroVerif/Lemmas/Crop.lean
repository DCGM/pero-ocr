/- Helper lemmas for C10.  Two notions carry the file: `linspace` is ONE ramp for every `n` (`linspace_eq`), and
`bilinear` is the one-dimensional interpolation `interp1` in `y` of `interp1` in `x` (`bilinear_eq`). -/
import PeroVerif.Model.Crop
import Mathlib.Data.Rat.Floor
import Mathlib.Tactic.Ring
import Mathlib.Tactic.LinearCombination

namespace Crop

/-- the three branches of `linspace` are one formula: for `n = 1` the step is `(b - a) * 0 / 0 = 0` -/
theorem linspace_eq (a b : Rat) (n : Nat) :
    linspace a b n = (List.range n).map fun (i : Nat) => a + (b - a) * (i : Rat) / ((n : Rat) - 1) := by
  unfold linspace
  split
  · subst n; rfl
  · split
    · subst n; simp
    · rfl

theorem linspace_length (a b : Rat) (n : Nat) : (linspace a b n).length = n := by
  rw [linspace_eq, List.length_map, List.length_range]

theorem linspace_get (a b : Rat) (n i : Nat) (hi : i < n) :
    (linspace a b n)[i]? = some (a + (b - a) * (i : Rat) / ((n : Rat) - 1)) := by
  rw [linspace_eq, List.getElem?_map, List.getElem?_range hi]; rfl

theorem linspace_nonneg (L : Rat) (hL : 0 ≤ L) (n : Nat) : ∀ t ∈ linspace 0 L n, 0 ≤ t := by
  intro t ht
  rw [linspace_eq, List.mem_map] at ht
  obtain ⟨i, hi, rfl⟩ := ht
  have hn : (0 : Rat) ≤ (n : Rat) - 1 := by
    rw [← Nat.cast_pred (Nat.one_le_of_lt (List.mem_range.1 hi))]; exact Nat.cast_nonneg _
  rw [zero_add, sub_zero]
  exact div_nonneg (mul_nonneg hL (Nat.cast_nonneg i)) hn

/-- linear interpolation of an integer-indexed sequence `g` at a rational position `f` -/
def interp1 (g : Int → Rat) (f : Rat) : Rat :=
  (1 - (f - f.floor)) * g f.floor + (f - f.floor) * g (f.floor + 1)

theorem bilinear_eq (im : Image) (fx fy : Rat) :
    bilinear im fx fy = interp1 (fun y => interp1 (fun x => im.at x y) fx) fy := by
  unfold bilinear interp1
  ring

/-- a convex combination of the two neighbouring values of `g` -/
theorem interp1_mem {g : Int → Rat} {lo hi f : Rat} (ha : lo ≤ g f.floor ∧ g f.floor ≤ hi)
    (hb : lo ≤ g (f.floor + 1) ∧ g (f.floor + 1) ≤ hi) : lo ≤ interp1 g f ∧ interp1 g f ≤ hi := by
  have h0 : 0 ≤ f - f.floor := sub_nonneg.2 (Int.floor_le f)
  have h1 : 0 ≤ 1 - (f - f.floor) := sub_nonneg.2 (sub_le_iff_le_add'.2 (Int.lt_floor_add_one f).le)
  have e (c : Rat) : c = (1 - (f - f.floor)) * c + (f - f.floor) * c := by ring
  constructor
  · rw [e lo]
    exact add_le_add (mul_le_mul_of_nonneg_left ha.1 h1) (mul_le_mul_of_nonneg_left hb.1 h0)
  · rw [e hi]
    exact add_le_add (mul_le_mul_of_nonneg_left ha.2 h1) (mul_le_mul_of_nonneg_left hb.2 h0)

/-- Interpolating at a position inside a window `[a, b]` reads the window only: the right neighbour `b + 1` is
read at `f = b` alone, with weight 0.  (This is why `fast_remap` may cut the page at floor/ceil of the extremes.) -/
theorem interp1_window {g g' : Int → Rat} {a b : Int} (h : ∀ z, a ≤ z → z ≤ b → g' (z - a) = g z)
    {f : Rat} (ha : (a : Rat) ≤ f) (hb : f ≤ b) : interp1 g' (f - a) = interp1 g f := by
  have hfl : (f - (a : Rat)).floor = f.floor - a := Int.floor_sub_intCast f a
  have hlo : a ≤ f.floor := Int.le_floor.2 ha
  have hhi : f.floor ≤ b := Int.floor_le_iff.2 (hb.trans_lt (lt_add_one _))
  unfold interp1
  rw [hfl, h _ hlo hhi, Int.cast_sub, sub_sub_sub_cancel_right]
  rcases hhi.lt_or_eq with hlt | heq
  · rw [sub_add_eq_add_sub, h _ (Int.le_add_one hlo) hlt]
  · have : f - f.floor = 0 := sub_eq_zero.2 (le_antisymm (heq ▸ hb) (Int.floor_le f))
    rw [this, zero_mul, zero_mul]

theorem sub_at (im : Image) (xmin ymin xmax ymax X Y : Int)
    (hX : xmin ≤ X ∧ X ≤ xmax) (hY : ymin ≤ Y ∧ Y ≤ ymax) :
    (subImage im xmin ymin xmax ymax).at (X - xmin) (Y - ymin) = im.at X Y := by
  unfold subImage
  simp only [Image.at]
  rw [if_pos (by omega)]
  simp only [Int.sub_add_cancel]

theorem cubicEvalMax_witness : cubicEvalMax (2395 / 100) = 241 / 10 := by
  decide +kernel

theorem pyGet_zero (xs : List Rat) : pyGet xs 0 = xs.head? := by
  simp [pyGet, List.head?_eq_getElem?]

theorem pyGet_neg_one (xs : List Rat) (h : xs ≠ []) : pyGet xs (-1) = xs.getLast? := by
  have hp : 0 < xs.length := List.length_pos_iff.mpr h
  unfold pyGet
  rw [if_neg (by omega), if_pos (by omega), List.getLast?_eq_getElem?]
  congr 1
  omega

theorem advance_head_zero (F : List Rat) (t : Rat) (hF0 : F.head? = some 0) (ht : 0 ≤ t) (fuel : Nat) :
    advance F t (fuel + 1) 0 = some 0 := by
  rw [List.head?_eq_getElem?] at hF0
  simp [advance, hF0, not_lt.mpr ht]

theorem chord_algebra (t L x0 xl : Rat) (hL : L ≠ 0) :
    (1 - (t - L) / (0 - L)) * xl + (t - L) / (0 - L) * x0 = x0 + t / L * (xl - x0) := by
  rw [show (t - L) / (0 - L) = 1 - t / L by rw [zero_sub, div_neg, sub_div, div_self hL, neg_sub]]
  ring

/-- `F[0] = 0` is never `>` a sample position `t ≥ 0`, so the scan stays at 0 and Python's `[-1]` reads the LAST
entries: the step interpolates between the last and the first sample. -/
theorem reverseStep_chord (F X : List Rat) (L x0 xl t : Rat) (hF0 : F.head? = some 0)
    (hFl : F.getLast? = some L) (hx0 : X.head? = some x0) (hxl : X.getLast? = some xl)
    (hL : L ≠ 0) (ht : 0 ≤ t) :
    reverseStep F X 0 t = some (0, x0 + t / L * (xl - x0)) := by
  have hFne : F ≠ [] := by intro h; simp [h] at hF0
  have hXne : X ≠ [] := by intro h; simp [h] at hx0
  unfold reverseStep
  rw [advance_head_zero F t hF0 ht]
  simp only [Option.bind_eq_bind, Option.bind_some, Nat.cast_zero, Int.zero_sub]
  rw [pyGet_zero, pyGet_neg_one F hFne, pyGet_zero, pyGet_neg_one X hXne, hF0, hFl, hx0, hxl]
  simp only [Option.bind_some]
  rw [chord_algebra t L x0 xl hL]

theorem reverseGo_chord (F X : List Rat) (L x0 xl : Rat) (hF0 : F.head? = some 0)
    (hFl : F.getLast? = some L) (hx0 : X.head? = some x0) (hxl : X.getLast? = some xl)
    (hL : L ≠ 0) (ts : List Rat) (hts : ∀ t ∈ ts, 0 ≤ t) :
    reverseGo F X 0 ts = some (ts.map fun t => x0 + t / L * (xl - x0)) := by
  induction ts with
  | nil => rfl
  | cons t rest ih =>
    have ht : 0 ≤ t := hts t (by simp)
    have ih' := ih (fun u hu => hts u (by simp [hu]))
    simp only [reverseGo, reverseStep_chord F X L x0 xl t hF0 hFl hx0 hxl hL ht, ih', List.map_cons]

/-- On samples that are an affine function `left + ·` of the forward mapping the chord is exact: the reverse
mapping of `t` is `left + t`, as the inverse of the forward mapping would give. -/
theorem reverseGo_affine (F : List Rat) (left L : Rat) (hF0 : F.head? = some 0) (hFl : F.getLast? = some L)
    (hL : L ≠ 0) (ts : List Rat) (hts : ∀ t ∈ ts, 0 ≤ t) :
    reverseGo F (F.map fun f => left + f) 0 ts = some (ts.map fun t => left + t) := by
  rw [reverseGo_chord F _ L (left + 0) (left + L) hF0 hFl (by rw [List.head?_map, hF0]; rfl)
    (by rw [List.getLast?_map, hFl]; rfl) hL ts hts]
  refine congrArg some (List.map_congr_left fun t _ => ?_)
  rw [add_zero, add_sub_cancel_left, div_mul_cancel₀ t hL]

theorem head?_map_range {α : Type} (f : Nat → α) {n : Nat} (hn : 1 ≤ n) :
    ((List.range n).map f).head? = some (f 0) := by
  rw [List.head?_map, List.head?_range, if_neg (by omega)]; rfl

theorem getLast?_map_range {α : Type} (f : Nat → α) {n : Nat} (hn : 1 ≤ n) :
    ((List.range n).map f).getLast? = some (f (n - 1)) := by
  rw [List.getLast?_map, List.getLast?_range, if_neg (by omega)]; rfl

/-- closed form of the straight grid: on unit samples the chord is exact, column `t` sits at `left + t` -/
theorem straightGrid_eq (R : Rot) (left y0 : Rat) (n : Nat) (h0 h1 : Rat) (H : Nat) (hn : 2 ≤ n) :
    straightGrid R left y0 n h0 h1 H =
      some ((linspace (-h0) h1 H).map fun v =>
        ((linspace 0 ((n : Rat) - 1)
            ((((n : Nat) : Rat) - 1) * ((H : Nat) : Rat) / (h0 + h1)).floor.toNat).map fun t => left + t).map
          fun x => R.apply (x, y0 + v)) := by
  have h1n : 1 ≤ n := by omega
  have hpos : (0 : Rat) < (n : Rat) - 1 := by
    rw [← Nat.cast_pred h1n]; exact Nat.cast_pos.2 (by omega)
  unfold straightGrid reverseLineMapping
  simp only
  rw [show (List.range n).map (fun (i : Nat) => left + (i : Rat)) =
      ((List.range n).map fun (i : Nat) => (i : Rat)).map fun f => left + f from (List.map_map ..).symm,
    reverseGo_affine _ left ((n : Rat) - 1) (head?_map_range _ h1n)
      ((getLast?_map_range _ h1n).trans (congrArg some (Nat.cast_pred h1n))) hpos.ne' _ (linspace_nonneg _ hpos.le _)]

end Crop
