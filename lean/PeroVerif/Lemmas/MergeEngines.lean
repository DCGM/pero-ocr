/-
The loop of `merge_layouts` (C19) is a running strict maximum: `foldl_mergeStep` says what it returns, everything else
follows from it.
-/
import Mathlib.Order.Basic
import PeroVerif.Model.MergeEngines

namespace ME
variable {Q T L K G : Type} [LinearOrder Q]

/-- the line `x` carrying the recognition result of engine `e` -/
def adopt (x : Line Q T L K G) (e : Line Q T L K G × Q) : Line Q T L K G :=
  { x with text := e.1.text, logits := e.1.logits, chars := e.1.chars, tconf := some e.2 }

/-- One step with a confidence that is not better leaves the state alone. -/
theorem mergeStep_of_le (lt : Q → Q → Bool) (hlt : ∀ a b, lt a b = true ↔ a < b)
    (st : Q × Line Q T L K G) (e : Line Q T L K G × Q) (h : e.2 ≤ st.1) :
    mergeStep lt st e = st :=
  if_neg fun h' => not_lt.2 h ((hlt _ _).1 h')

/-- One step with a strictly better confidence takes that engine's fields. -/
theorem mergeStep_of_lt (lt : Q → Q → Bool) (hlt : ∀ a b, lt a b = true ↔ a < b)
    (st : Q × Line Q T L K G) (e : Line Q T L K G × Q) (h : st.1 < e.2) :
    mergeStep lt st e = (e.2, adopt st.2 e) :=
  if_pos ((hlt _ _).2 h)

/-- If no remaining engine beats the current best, the fold is the identity. -/
theorem foldl_no_improve (lt : Q → Q → Bool) (hlt : ∀ a b, lt a b = true ↔ a < b)
    (es : List (Line Q T L K G × Q)) (st : Q × Line Q T L K G) (h : ∀ e ∈ es, e.2 ≤ st.1) :
    es.foldl (mergeStep lt) st = st := by
  induction es with
  | nil => rfl
  | cons e es ih =>
    rw [List.forall_mem_cons] at h
    rw [List.foldl_cons, mergeStep_of_le lt hlt st e h.1, ih h.2]

/-- What the loop computes.  Either no engine beats the start value and nothing happens, or the state line takes
the result of the FIRST engine whose confidence is the maximum (strictly above everything before it, at least
everything after it), and nothing else of the history is left in it. -/
theorem foldl_mergeStep (lt : Q → Q → Bool) (hlt : ∀ a b, lt a b = true ↔ a < b)
    (es : List (Line Q T L K G × Q)) (st : Q × Line Q T L K G) :
    ((∀ e ∈ es, e.2 ≤ st.1) ∧ es.foldl (mergeStep lt) st = st) ∨
    ∃ pre e post, es = pre ++ e :: post ∧ (∀ a ∈ pre, a.2 < e.2) ∧ (∀ a ∈ post, a.2 ≤ e.2) ∧ st.1 < e.2 ∧
      es.foldl (mergeStep lt) st = (e.2, adopt st.2 e) := by
  induction es generalizing st with
  | nil => exact .inl ⟨nofun, rfl⟩
  | cons a es ih =>
    rw [List.foldl_cons]
    rcases lt_or_ge st.1 a.2 with ha | ha
    · rw [mergeStep_of_lt lt hlt st a ha]
      rcases ih (a.2, adopt st.2 a) with ⟨hle, heq⟩ | ⟨pre, e, post, rfl, hpre, hpost, hlt', heq⟩
      · exact .inr ⟨[], a, es, rfl, nofun, hle, ha, heq⟩
      · -- `adopt (adopt st.2 a) e` is `adopt st.2 e` by definition: a later result replaces an earlier one completely
        exact .inr ⟨a :: pre, e, post, rfl, List.forall_mem_cons.2 ⟨hlt', hpre⟩, hpost, ha.trans hlt', heq⟩
    · rw [mergeStep_of_le lt hlt st a ha]
      rcases ih st with ⟨hle, heq⟩ | ⟨pre, e, post, rfl, hpre, hpost, hlt', heq⟩
      · exact .inl ⟨List.forall_mem_cons.2 ⟨ha, hle⟩, heq⟩
      · exact .inr ⟨a :: pre, e, post, rfl, List.forall_mem_cons.2 ⟨ha.trans_lt hlt', hpre⟩, hpost, hlt', heq⟩

/-- the same by position: `j` is the first index of the maximum -/
theorem foldl_mergeStep_first_max (lt : Q → Q → Bool) (hlt : ∀ a b, lt a b = true ↔ a < b)
    (es : List (Line Q T L K G × Q)) (st : Q × Line Q T L K G) (j : ℕ) (hj : j < es.length)
    (hmax : ∀ i (hi : i < es.length), es[i].2 ≤ es[j].2)
    (hfirst : ∀ i (hi : i < j), (es[i]'(by omega)).2 < es[j].2) (hpos : st.1 < es[j].2) :
    es.foldl (mergeStep lt) st = (es[j].2, adopt st.2 es[j]) := by
  rcases foldl_mergeStep lt hlt es st with ⟨hle, _⟩ | ⟨pre, e, post, hes, hpre, hpost, _, heq⟩
  · exact absurd (hle _ (List.getElem_mem hj)) (not_le.2 hpos)
  · -- `e` sits at the first maximum as well, so it is the `j`-th engine
    have hp : pre.length < es.length := by simp [hes]
    have he : es[pre.length] = e := by simp [hes]
    have hall : ∀ a ∈ es, a.2 ≤ e.2 := by
      intro a ha
      rw [hes, List.mem_append, List.mem_cons] at ha
      rcases ha with ha | rfl | ha
      exacts [(hpre a ha).le, le_rfl, hpost a ha]
    rcases Nat.lt_trichotomy j pre.length with h | rfl | h
    · have : es[j] ∈ pre := by simp only [hes, List.getElem_append_left h, List.getElem_mem]
      exact absurd (he ▸ hmax pre.length hp) (not_le.2 (hpre _ this))
    · rw [heq, he]
    · exact absurd (he ▸ hfirst _ h) (not_lt.2 (hall _ (List.getElem_mem hj)))

/-- Feeding the state line back in as first engine of a new merge, with the confidence of the content it carries
(the running maximum if some engine was positive, otherwise the first engine's own), reproduces the state; and that
confidence does not beat the running maximum. -/
theorem mergeStep_restart (lt : Q → Q → Bool) (hlt : ∀ a b, lt a b = true ↔ a < b) (zero : Q)
    (e0 : Line Q T L K G × Q) (pre : List (Line Q T L K G × Q)) :
    let st := (e0 :: pre).foldl (mergeStep lt) (zero, e0.1)
    let cm := if zero < st.1 then st.1 else e0.2
    mergeStep lt (zero, st.2) (st.2, cm) = st ∧ cm ≤ st.1 := by
  rcases foldl_mergeStep lt hlt (e0 :: pre) (zero, e0.1) with ⟨hle, heq⟩ | ⟨_, e, _, _, _, _, hpos, heq⟩ <;>
    simp only [heq]
  · have h0 : e0.2 ≤ zero := hle e0 List.mem_cons_self
    rw [if_neg (lt_irrefl zero)]
    exact ⟨mergeStep_of_le lt hlt _ _ h0, h0⟩
  · rw [if_pos hpos]
    exact ⟨mergeStep_of_lt lt hlt _ _ hpos, le_rfl⟩

end ME
