/-
The functional decoder model (C20): the step-by-step decoder refines the full masked pass.  A per-layer invariant
(`LInv`: the first slots of the caches hold what the full pass computes) is kept by `layerStep`, hence by `decStep`
and `runSteps` (`runSteps_inv`).
-/
import PeroVerif.Model.Decoder
import PeroVerif.Lemmas.ListAux

namespace Dec
variable {V M K KM : Type}

theorem fullLayerAux_length (f : LayerFn V M K KM) (km : KM) (seen ys : List V) :
    (fullLayerAux f km seen ys).length = ys.length := by
  induction ys generalizing seen with
  | nil => rfl
  | cons y r ih => simp [fullLayerAux, ih]

theorem fullLayerAux_take (f : LayerFn V M K KM) (km : KM) (seen ys : List V) (n : Nat) :
    fullLayerAux f km seen (ys.take n) = (fullLayerAux f km seen ys).take n := by
  induction ys generalizing seen n with
  | nil => simp [fullLayerAux]
  | cons y r ih =>
    cases n with
    | zero => simp [fullLayerAux]
    | succ n => simp [fullLayerAux, ih]

theorem fullLayerAux_concat (f : LayerFn V M K KM) (km : KM) (seen ys : List V) (y : V) :
    fullLayerAux f km seen (ys ++ [y]) =
      fullLayerAux f km seen ys ++ [f.pos y ((seen ++ ys ++ [y]).map f.projKV) km] := by
  induction ys generalizing seen with
  | nil => simp [fullLayerAux]
  | cons a r ih => simp [fullLayerAux, ih]

theorem fullLayer_length (f : LayerFn V M K KM) (mem : M) (ys : List V) :
    (fullLayer f mem ys).length = ys.length :=
  fullLayerAux_length f _ [] ys

theorem fullLayer_take (f : LayerFn V M K KM) (mem : M) (ys : List V) (n : Nat) :
    fullLayer f mem (ys.take n) = (fullLayer f mem ys).take n :=
  fullLayerAux_take f _ [] ys n

/-- the last position attends to everything: what one `DecoderLayer.infer` call computes -/
theorem fullLayer_concat (f : LayerFn V M K KM) (mem : M) (ys : List V) (y : V) :
    fullLayer f mem (ys ++ [y]) =
      fullLayer f mem ys ++ [f.pos y ((ys ++ [y]).map f.projKV) (f.projMem mem)] :=
  fullLayerAux_concat f (f.projMem mem) [] ys y

theorem fullDecoder_nil (mem : M) (xs : List V) :
    fullDecoder ([] : List (LayerFn V M K KM)) mem xs = xs := rfl

theorem fullDecoder_cons (f : LayerFn V M K KM) (fs : List (LayerFn V M K KM)) (mem : M) (xs : List V) :
    fullDecoder (f :: fs) mem xs = fullDecoder fs mem (fullLayer f mem xs) := rfl

theorem fullDecoder_length (fs : List (LayerFn V M K KM)) (mem : M) (xs : List V) :
    (fullDecoder fs mem xs).length = xs.length := by
  induction fs generalizing xs with
  | nil => rfl
  | cons f fs ih => rw [fullDecoder_cons, ih, fullLayer_length]

theorem fullDecoder_take (fs : List (LayerFn V M K KM)) (mem : M) (xs : List V) (n : Nat) :
    fullDecoder fs mem (xs.take n) = (fullDecoder fs mem xs).take n := by
  induction fs generalizing xs with
  | nil => rfl
  | cons f fs ih => rw [fullDecoder_cons, fullDecoder_cons, fullLayer_take, ih]

theorem fullDecoder_concat (fs : List (LayerFn V M K KM)) (mem : M) (xs : List V) (x : V) :
    ∃ v, fullDecoder fs mem (xs ++ [x]) = fullDecoder fs mem xs ++ [v] := by
  induction fs generalizing xs x with
  | nil => exact ⟨x, rfl⟩
  | cons f fs ih => rw [fullDecoder_cons, fullDecoder_cons, fullLayer_concat]; exact ih _ _

theorem decStep_cons (cached : Bool) (mem : M) (t : Nat) (f : LayerFn V M K KM) (fs : List (LayerFn V M K KM))
    (s : LState V K KM) (ss : List (LState V K KM)) (tgt : List V) :
    decStep cached mem t (f :: fs) (s :: ss) tgt =
      ((layerStep cached f mem t tgt s).1 :: (decStep cached mem t fs ss (layerStep cached f mem t tgt s).2).1,
        (decStep cached mem t fs ss (layerStep cached f mem t tgt s).2).2) := rfl

theorem runSteps_cons (cached : Bool) (fs : List (LayerFn V M K KM)) (mem : M) (done : List V) (x : V)
    (todo : List V) (ss : List (LState V K KM)) :
    runSteps cached fs mem done (x :: todo) ss =
      ((runSteps cached fs mem (done ++ [x]) todo (decStep cached mem done.length fs ss (done ++ [x])).1).1,
        (decStep cached mem done.length fs ss (done ++ [x])).2.getLast? ::
          (runSteps cached fs mem (done ++ [x]) todo (decStep cached mem done.length fs ss (done ++ [x])).1).2) := rfl

/-- state of one layer after the steps for its inputs `inp` (the outputs of the layer below): the first `inp.length`
slots hold what the full pass computes; nothing is said of the later ones -/
structure LInv (cached : Bool) (f : LayerFn V M K KM) (mem : M) (room : Nat) (s : LState V K KM) (inp : List V) :
    Prop where
  outs : s.mem.take inp.length = fullLayer f mem inp
  keys : cached = true → s.selfCache.take inp.length = inp.map f.projKV
  cross : cached = true → inp ≠ [] → s.crossKV = f.projMem mem
  roomy : s.roomy room

theorem LInv.nil (cached : Bool) (f : LayerFn V M K KM) (mem : M) {room : Nat} {s : LState V K KM}
    (h : s.roomy room) : LInv cached f mem room s [] :=
  ⟨rfl, fun _ => rfl, fun _ h => absurd rfl h, h⟩

theorem layerStep_spec (cached : Bool) (f : LayerFn V M K KM) (mem : M) (room : Nat) (s : LState V K KM)
    (inp : List V) (x : V) (h : LInv cached f mem room s inp) (hr : inp.length < room) :
    (layerStep cached f mem inp.length (inp ++ [x]) s).2 = fullLayer f mem (inp ++ [x]) ∧
    LInv cached f mem room (layerStep cached f mem inp.length (inp ++ [x]) s).1 (inp ++ [x]) := by
  obtain ⟨hm, hs, hc, h1, h2⟩ := h
  have hl : (inp ++ [x]).length = inp.length + 1 := List.length_append
  have hset {α : Type} (l : List α) (o : α) (h : room ≤ l.length) : room ≤ (l.set inp.length o).length := by
    rwa [List.length_set]
  have hm' : (s.mem.set inp.length (f.pos x ((inp ++ [x]).map f.projKV) (f.projMem mem))).take (inp.length + 1) =
      fullLayer f mem (inp ++ [x]) := by
    rw [ListAux.take_set_succ _ _ _ (Nat.lt_of_lt_of_le hr h2), hm, fullLayer_concat]
  cases cached with
  | false =>
    simp only [layerStep, List.getLast?_concat, Bool.false_eq_true, if_false]
    exact ⟨hm', by rwa [hl], nofun, nofun, h1, hset _ _ h2⟩
  | true =>
    have hckv : (if inp.length = 0 then f.projMem mem else s.crossKV) = f.projMem mem := by
      split
      · rfl
      · exact hc rfl (by rintro rfl; contradiction)
    have hs' : (s.selfCache.set inp.length (f.projKV x)).take (inp.length + 1) = (inp ++ [x]).map f.projKV := by
      rw [ListAux.take_set_succ _ _ _ (Nat.lt_of_lt_of_le hr h1), hs rfl, List.map_append, List.map_singleton]
    simp only [layerStep, List.getLast?_concat, if_true, hckv, hs']
    exact ⟨hm', by rwa [hl], fun _ => by rwa [hl], fun _ _ => rfl, hset _ _ h1, hset _ _ h2⟩

/-- `LInv` for every layer, each with the full-pass outputs of the layer below as its inputs -/
def Inv (cached : Bool) (mem : M) (room : Nat) :
    List (LayerFn V M K KM) → List (LState V K KM) → List V → Prop
  | [], [], _ => True
  | f :: fs, s :: ss, inp => LInv cached f mem room s inp ∧ Inv cached mem room fs ss (fullLayer f mem inp)
  | _, _, _ => False

/-- before the first step nothing is asked of the contents: any state of the right shape will do … -/
theorem Inv_init (cached : Bool) (mem : M) (room : Nat) (fs : List (LayerFn V M K KM))
    (ss : List (LState V K KM)) (hlen : ss.length = fs.length) (hroom : ∀ s ∈ ss, s.roomy room) :
    Inv cached mem room fs ss [] := by
  induction fs generalizing ss with
  | nil =>
    cases ss with
    | nil => trivial
    | cons s ss => simp at hlen
  | cons f fs ih =>
    cases ss with
    | nil => simp at hlen
    | cons s ss =>
      rw [List.forall_mem_cons] at hroom
      exact ⟨.nil cached f mem hroom.1, ih ss (by simpa using hlen) hroom.2⟩

/-- … and the state keeps that shape, so that the next line may start from it -/
theorem Inv_forget (cached : Bool) (mem : M) (room : Nat) (fs : List (LayerFn V M K KM))
    (ss : List (LState V K KM)) (inp : List V) (h : Inv cached mem room fs ss inp) :
    ss.length = fs.length ∧ ∀ s ∈ ss, s.roomy room := by
  induction fs generalizing ss inp with
  | nil =>
    cases ss with
    | nil => simp
    | cons s ss => exact h.elim
  | cons f fs ih =>
    cases ss with
    | nil => exact h.elim
    | cons s ss =>
      obtain ⟨hl, hr⟩ := ih ss _ h.2
      exact ⟨by simp [hl], List.forall_mem_cons.2 ⟨h.1.roomy, hr⟩⟩

theorem decStep_inv (cached : Bool) (mem : M) (room : Nat) (fs : List (LayerFn V M K KM))
    (ss : List (LState V K KM)) (inp : List V) (x : V) (h : Inv cached mem room fs ss inp)
    (hr : inp.length < room) :
    Inv cached mem room fs (decStep cached mem inp.length fs ss (inp ++ [x])).1 (inp ++ [x]) ∧
    (decStep cached mem inp.length fs ss (inp ++ [x])).2 = fullDecoder fs mem (inp ++ [x]) := by
  induction fs generalizing ss inp x with
  | nil =>
    cases ss with
    | nil => exact ⟨trivial, rfl⟩
    | cons s ss => exact h.elim
  | cons f fs ih =>
    cases ss with
    | nil => exact h.elim
    | cons s ss =>
      obtain ⟨e1, e2⟩ := layerStep_spec cached f mem room s inp x h.1 hr
      have := ih ss (fullLayer f mem inp) (f.pos x ((inp ++ [x]).map f.projKV) (f.projMem mem)) h.2
        (by rwa [fullLayer_length])
      rw [← fullLayer_concat, ← e1, fullLayer_length] at this
      rw [decStep_cons, fullDecoder_cons]
      exact ⟨⟨e2, e1 ▸ this.1⟩, e1 ▸ this.2⟩

/-- The refinement theorem: started in a state that agrees with the full pass on `done`, the steps for `todo` return
the positions of the full pass that follow, and leave a state that agrees with it on `done ++ todo`. -/
theorem runSteps_inv (cached : Bool) (mem : M) (room : Nat) (fs : List (LayerFn V M K KM))
    (done todo : List V) (ss : List (LState V K KM))
    (h : Inv cached mem room fs ss done) (hr : done.length + todo.length ≤ room) :
    Inv cached mem room fs (runSteps cached fs mem done todo ss).1 (done ++ todo) ∧
    (fullDecoder fs mem done).map some ++ (runSteps cached fs mem done todo ss).2 =
      (fullDecoder fs mem (done ++ todo)).map some := by
  induction todo generalizing done ss with
  | nil => simpa [runSteps] using h
  | cons x todo ih =>
    have hr' : done.length + (todo.length + 1) ≤ room := hr
    obtain ⟨h1, h2⟩ := decStep_inv cached mem room fs ss done x h (by omega)
    obtain ⟨v, hv⟩ := fullDecoder_concat fs mem done x
    have := ih (done ++ [x]) _ h1 (by rw [List.length_append, List.length_singleton]; omega)
    rw [List.append_assoc, List.singleton_append] at this
    refine ⟨this.1, ?_⟩
    rw [← this.2, runSteps_cons, h2, hv]
    simp

theorem runSteps_eq_full (cached : Bool) (fs : List (LayerFn V M K KM)) (mem : M) (xs : List V)
    (ss : List (LState V K KM)) (n : Nat) (hlen : ss.length = fs.length) (hroom : ∀ s ∈ ss, s.roomy n)
    (hx : xs.length ≤ n) :
    (runSteps cached fs mem [] xs ss).2 = (fullDecoder fs mem xs).map some ∧
    (runSteps cached fs mem [] xs ss).1.length = fs.length ∧
    ∀ s ∈ (runSteps cached fs mem [] xs ss).1, s.roomy n := by
  obtain ⟨h1, h2⟩ := runSteps_inv cached mem n fs [] xs ss (Inv_init cached mem n fs ss hlen hroom) (by simpa using hx)
  have h0 : fullDecoder fs mem [] = [] := List.eq_nil_of_length_eq_zero (fullDecoder_length fs mem [])
  rw [h0] at h2
  exact ⟨h2, Inv_forget cached mem n fs _ _ h1⟩

end Dec
