/-
Lemmas for C06 about the ALTO export: `str.split()`, one word span per word, and the bounding boxes
(`hwvh`, print space) as extrema taken with core's `List.min?` / `List.max?`.
-/
import PeroVerif.Model.AltoText

namespace Alto
open Py

theorem pySplitAux_flatten (isSpace : Nat → Bool) (s : Str) : ∀ cur : Str,
    (pySplitAux isSpace cur s).flatten = cur ++ s.filter (fun c => !isSpace c) := by
  induction s with
  | nil => intro cur; by_cases h : cur = [] <;> simp [pySplitAux, h]
  | cons c r ih =>
    intro cur
    by_cases hc : isSpace c = true
    · by_cases h : cur = [] <;> simp [pySplitAux, h, hc, ih]
    · simp [pySplitAux, hc, ih]

theorem pySplitAux_words (isSpace : Nat → Bool) (s : Str) : ∀ cur : Str,
    (∀ c ∈ cur, isSpace c = false) →
    ∀ w ∈ pySplitAux isSpace cur s, w ≠ [] ∧ ∀ c ∈ w, isSpace c = false := by
  induction s with
  | nil =>
    intro cur hcur w hw
    by_cases h : cur = []
    · simp [pySplitAux, h] at hw
    · simp [pySplitAux, h] at hw
      subst hw; exact ⟨h, hcur⟩
  | cons c r ih =>
    intro cur hcur w hw
    by_cases hc : isSpace c = true
    · by_cases h : cur = []
      · simp [pySplitAux, h, hc] at hw
        exact ih [] (by simp) w hw
      · simp [pySplitAux, h, hc] at hw
        rcases hw with hw | hw
        · subst hw; exact ⟨h, hcur⟩
        · exact ih [] (by simp) w hw
    · simp [pySplitAux, hc] at hw
      refine ih (cur ++ [c]) ?_ w hw
      intro x hx
      simp at hx
      rcases hx with hx | hx
      · exact hcur x hx
      · subst hx; simpa using hc

theorem pySplitAux_eq_nil (isSpace : Nat → Bool) (s : Str) : ∀ cur : Str,
    pySplitAux isSpace cur s = [] ↔ cur = [] ∧ s.all isSpace = true := by
  induction s with
  | nil => intro cur; by_cases h : cur = [] <;> simp [pySplitAux, h]
  | cons c r ih =>
    intro cur
    by_cases hc : isSpace c = true
    · by_cases h : cur = [] <;> simp [pySplitAux, h, hc, ih]
    · simp [pySplitAux, hc, ih]

/-- separator positions of `s`, shifted by `off` -/
def idxs (p : Nat → Bool) : Int → Str → List Int
  | _, [] => []
  | off, c :: r => (if p c then [off] else []) ++ idxs p (off + 1) r

theorem idxs_eq (p : Nat → Bool) (s : Str) : ∀ off : Int,
    ((List.range s.length).filter fun i => p (s.getD i 0)).map (fun (i : Nat) => off + Int.ofNat i)
      = idxs p off s := by
  induction s with
  | nil => intro off; rfl
  | cons c r ih =>
    intro off
    have e : (fun i : Nat => off + Int.ofNat (i + 1)) = fun i : Nat => off + 1 + Int.ofNat i :=
      funext fun i => by simp only [Int.ofNat_eq_natCast]; omega
    have h : ((List.range r.length).map Nat.succ).filter (fun i => p ((c :: r).getD i 0)) =
        ((List.range r.length).filter fun i => p (r.getD i 0)).map Nat.succ := List.filter_map ..
    rw [idxs, ← ih (off + 1), ← e, List.length_cons, List.range_succ_eq_map, List.filter_cons, h]
    cases hc : p c <;> simp [hc, Function.comp_def]

/-- Walking `s` from offset `off` with last separator `prev`, a span is open exactly when the word
under construction `cur` is non-empty; so spans and words are counted together. -/
theorem spans_idxs_length (p : Nat → Bool) (s : Str) : ∀ (prev off : Int) (cur : Str),
    prev ≤ off - 1 → (cur = [] ↔ prev = off - 1) →
    (spans (prev :: (idxs p off s ++ [off + Int.ofNat s.length]))).length = (pySplitAux p cur s).length := by
  induction s with
  | nil =>
    intro prev off cur _ h
    by_cases hc : cur = [] <;> simp [idxs, spans, pySplitAux, hc, h.symm]
  | cons c r ih =>
    intro prev off cur hle h
    have e : off + Int.ofNat (c :: r).length = (off + 1) + Int.ofNat r.length := by simp; omega
    rw [e]
    by_cases hc : p c = true
    · simp only [idxs, hc, if_true, List.cons_append, List.nil_append, spans, List.length_append,
        pySplitAux]
      rw [ih off (off + 1) [] (by omega) (by simp)]
      by_cases hcur : cur = [] <;> simp [hcur, h.symm, Nat.add_comm]
    · simp only [idxs, pySplitAux, hc, List.nil_append, Bool.false_eq_true, if_false]
      exact ih prev (off + 1) (cur ++ [c]) (by omega) (by simp; omega)

theorem isSep_eq (hs : Gen.Alto.sepIsSpace = true) (isSpace : Nat → Bool) :
    isSep isSpace = isSpace := by
  funext c; simp [isSep, hs]

theorem spaceIdxs_eq (isSpace : Nat → Bool) (s : Str) :
    spaceIdxs isSpace s = (-1 : Int) :: (idxs (isSep isSpace) 0 s ++ [(0 : Int) + Int.ofNat s.length]) := by
  unfold spaceIdxs
  rw [← idxs_eq]
  simp

theorem spans_length (hs : Gen.Alto.sepIsSpace = true) (isSpace : Nat → Bool) (s : Str) :
    (spans (spaceIdxs isSpace s)).length = (pySplit isSpace s).length := by
  rw [spaceIdxs_eq, isSep_eq hs]
  exact spans_idxs_length _ _ _ _ _ (by omega) (by simp)

theorem filter_range_length (L : Nat) :
    ((List.range L).filter (fun w => w + 1 ≠ L)).length = L - 1 := by
  cases L with
  | zero => simp
  | succ k =>
    rw [List.range_succ, List.filter_append]
    have : (List.range k).filter (fun w => decide (w + 1 ≠ k + 1)) = List.range k := by
      rw [List.filter_eq_self]
      intro a ha
      have := List.mem_range.mp ha
      simp; omega
    rw [this]; simp

theorem lineWords_eq (hs : Gen.Alto.sepIsSpace = true) (isSpace : Nat → Bool) (conv : Str → Str)
    (aligned : Bool) (s : Str) :
    ∃ n, lineWords isSpace conv aligned s = .words ((pySplit isSpace s).map conv) n ∧
      (aligned = true → n = (pySplit isSpace s).length - 1) := by
  cases aligned with
  | false => exact ⟨0, by simp [lineWords], by simp⟩
  | true =>
    refine ⟨(pySplit isSpace s).length - 1, ?_, fun _ => rfl⟩
    simp only [lineWords, spans_length hs, if_true, Nat.le_refl, List.take_length,
      filter_range_length]

theorem maxL_spec (d : Int) {xs : List Int} (h : xs ≠ []) :
    maxL d xs ∈ xs ∧ ∀ y ∈ xs, y ≤ maxL d xs := by
  obtain ⟨x, r, rfl⟩ := List.exists_cons_of_ne_nil h
  exact List.max?_eq_some_iff.mp List.max?_cons'

theorem minL_spec (d : Int) {xs : List Int} (h : xs ≠ []) :
    minL d xs ∈ xs ∧ ∀ y ∈ xs, minL d xs ≤ y := by
  obtain ⟨x, r, rfl⟩ := List.exists_cons_of_ne_nil h
  exact List.min?_eq_some_iff.mp List.min?_cons'

theorem minL_map_spec {α : Type} (f : α → Int) {l : List α} (h : l ≠ []) :
    (∃ a ∈ l, f a = minL 0 (l.map f)) ∧ ∀ a ∈ l, minL 0 (l.map f) ≤ f a :=
  have ⟨hm, hb⟩ := minL_spec 0 (xs := l.map f) (by simpa using h)
  ⟨by simpa using hm, fun _ ha => hb _ (List.mem_map_of_mem ha)⟩

theorem maxL_map_spec {α : Type} (f : α → Int) {l : List α} (h : l ≠ []) :
    (∃ a ∈ l, f a = maxL 0 (l.map f)) ∧ ∀ a ∈ l, f a ≤ maxL 0 (l.map f) :=
  have ⟨hm, hb⟩ := maxL_spec 0 (xs := l.map f) (by simpa using h)
  ⟨by simpa using hm, fun _ ha => hb _ (List.mem_map_of_mem ha)⟩

/-- a start value that no element exceeds is absorbed by the first step of the fold -/
theorem foldl_min_absorb (d : Int) {xs : List Int} {x : Int} (hne : xs ≠ []) (h : ∀ y ∈ xs, y ≤ x) :
    xs.foldl min x = minL d xs := by
  obtain ⟨a, r, rfl⟩ := List.exists_cons_of_ne_nil hne
  rw [List.foldl_cons, Int.min_eq_right (h a (by simp))]; rfl

theorem foldl_max_absorb (d : Int) {xs : List Int} {x : Int} (hne : xs ≠ []) (h : ∀ y ∈ xs, x ≤ y) :
    xs.foldl max x = maxL d xs := by
  obtain ⟨a, r, rfl⟩ := List.exists_cons_of_ne_nil hne
  rw [List.foldl_cons, Int.max_eq_right (h a (by simp))]; rfl

/-- a component of the state that evolves on its own is a fold of its own -/
theorem foldl_proj {σ β γ : Type} (π : σ → γ) (f : β → γ) (g : γ → γ → γ) (step : σ → β → σ)
    (h : ∀ s b, π (step s b) = g (π s) (f b)) (bs : List β) (s : σ) :
    π (bs.foldl step s) = (bs.map f).foldl g (π s) := by
  induction bs generalizing s with
  | nil => rfl
  | cons b bs ih => rw [List.foldl_cons, ih, h]; rfl

theorem psFold_hw (bs : List Box) (h : bs ≠ []) (p0 : PS) :
    (bs.foldl psStep p0).height = (bs.foldl psStep p0).bottom - (bs.foldl psStep p0).vpos ∧
    (bs.foldl psStep p0).width = (bs.foldl psStep p0).right - (bs.foldl psStep p0).hpos := by
  rw [← List.dropLast_concat_getLast h, List.foldl_append]
  exact ⟨rfl, rfl⟩

/-- The print space in closed form: the four running extrema are folds of their own, the start values
`H`, `W`, `0`, `0` are absorbed as soon as no block lies beyond them, and what is left are the extrema
that `hwvh` takes of a polygon. -/
theorem printSpace_eq (H W : Int) {bs : List Box} (hne : bs ≠ [])
    (hin : ∀ b ∈ bs, b.vpos ≤ H ∧ b.hpos ≤ W ∧ 0 ≤ b.vpos + b.height ∧ 0 ≤ b.hpos + b.width) :
    let p := printSpace H W bs
    p.vpos = minL 0 (bs.map (·.vpos)) ∧ p.hpos = minL 0 (bs.map (·.hpos)) ∧
    p.bottom = maxL 0 (bs.map fun b => b.vpos + b.height) ∧
    p.right = maxL 0 (bs.map fun b => b.hpos + b.width) ∧
    p.height = p.bottom - p.vpos ∧ p.width = p.right - p.hpos := by
  have m {f : Box → Int} : bs.map f ≠ [] := by simpa using hne
  refine ⟨?_, ?_, ?_, ?_, psFold_hw bs hne _⟩
  · exact (foldl_proj PS.vpos _ min psStep (fun _ _ => rfl) bs _).trans
      (foldl_min_absorb 0 m (List.forall_mem_map.mpr fun b hb => (hin b hb).1))
  · exact (foldl_proj PS.hpos _ min psStep (fun _ _ => rfl) bs _).trans
      (foldl_min_absorb 0 m (List.forall_mem_map.mpr fun b hb => (hin b hb).2.1))
  · exact (foldl_proj PS.bottom _ max psStep (fun _ _ => rfl) bs _).trans
      (foldl_max_absorb 0 m (List.forall_mem_map.mpr fun b hb => (hin b hb).2.2.1))
  · exact (foldl_proj PS.right _ max psStep (fun _ _ => rfl) bs _).trans
      (foldl_max_absorb 0 m (List.forall_mem_map.mpr fun b hb => (hin b hb).2.2.2))

theorem pySplitAux_append_word (isSpace : Nat → Bool) (w : Str) (hw : ∀ c ∈ w, isSpace c = false) :
    ∀ (cur rest : Str), pySplitAux isSpace cur (w ++ rest) = pySplitAux isSpace (cur ++ w) rest := by
  induction w with
  | nil => intro cur rest; simp
  | cons c w ih =>
    intro cur rest
    have hc : isSpace c = false := hw c (by simp)
    have := ih (fun d hd => hw d (by simp [hd])) (cur ++ [c]) rest
    simp [pySplitAux, hc, this, List.append_assoc]

theorem pySplit_reimport (isSpace : Nat → Bool) (h32 : isSpace 32 = true) :
    ∀ (ws : List Str), (∀ w ∈ ws, w ≠ [] ∧ ∀ c ∈ w, isSpace c = false) →
      pySplitAux isSpace [] (reimportLine ws) = ws := by
  intro ws
  induction ws with
  | nil => intro _; simp [reimportLine, pySplitAux]
  | cons w r ih =>
    intro h
    have hw := h w (by simp)
    cases r with
    | nil =>
      have := pySplitAux_append_word isSpace w hw.2 [] []
      simp only [List.append_nil, List.nil_append] at this
      simp [reimportLine, this, pySplitAux, hw.1]
    | cons w2 r2 =>
      have hr := ih (fun x hx => h x (by simp [hx]))
      have := pySplitAux_append_word isSpace w hw.2 [] ([32] ++ reimportLine (w2 :: r2))
      simp only [List.nil_append] at this
      simp only [reimportLine, List.append_assoc]
      rw [this]
      simp [pySplitAux, h32, hw.1, hr]

end Alto
