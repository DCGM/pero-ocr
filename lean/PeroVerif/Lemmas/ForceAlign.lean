/-
Lemmas for C05 (forced alignment), in this order: arithmetic of `Cost`; the state automaton (`symOf`, `allowed`, `PPath`) and
its correspondence with `collapse` (state paths are exactly the frame paths that collapse to a prefix of the labels);
the Viterbi invariant and `viterbi_spec`; the transfer from expanded frames to the matrix and `statePath_spec`
(the minimum over all frame paths that collapse to the labels, with a minimiser); character positions (`alignText_spec`);
when an alignment exists at all (`exists_collapse_iff`).
-/
import PeroVerif.Model.ForceAlign
import PeroVerif.Lemmas.Ctc
import PeroVerif.Lemmas.ListAux

namespace FA
open Ctc


theorem leC_refl (a : Cost) : leC a a = true := by
  cases a <;> simp [leC, ltC]

theorem leC_none (a : Cost) : leC a none = true := by
  cases a <;> simp [leC, ltC]

theorem leC_none_left {a : Cost} (h : leC none a = true) : a = none := by
  cases a <;> simp [leC, ltC] at h ⊢

theorem leC_trans {a b c : Cost} (h1 : leC a b = true) (h2 : leC b c = true) : leC a c = true := by
  cases a <;> cases b <;> cases c <;> simp [leC, ltC] at h1 h2 ⊢
  omega

theorem leC_of_ltC {a b : Cost} (h : ltC a b = true) : leC a b = true := by
  cases a <;> cases b <;> simp [leC, ltC] at h ⊢
  omega

theorem leC_of_not_ltC {a b : Cost} (h : ltC a b = false) : leC b a = true := by
  simp [leC, h]

theorem leC_total (a b : Cost) : leC a b = true ∨ leC b a = true := by
  cases a <;> cases b <;> simp [leC, ltC]
  omega

theorem addC_none_left (a : Cost) : addC none a = none := by
  cases a <;> rfl

theorem addC_none_right (a : Cost) : addC a none = none := by
  cases a <;> rfl

theorem addC_zero_right (a : Cost) : addC a (some 0) = a := by
  cases a <;> simp [addC]

theorem addC_comm (a b : Cost) : addC a b = addC b a := by
  cases a <;> cases b <;> simp [addC]
  omega

theorem addC_assoc (a b c : Cost) : addC (addC a b) c = addC a (addC b c) := by
  cases a <;> cases b <;> cases c <;> simp [addC]
  omega

theorem addC_mono_left {a b : Cost} (c : Cost) (h : leC a b = true) :
    leC (addC a c) (addC b c) = true := by
  cases a <;> cases b <;> cases c <;> simp [leC, ltC, addC] at h ⊢
  omega

theorem addC_mono_right {a b : Cost} (c : Cost) (h : leC a b = true) :
    leC (addC c a) (addC c b) = true := by
  rw [addC_comm c a, addC_comm c b]; exact addC_mono_left c h

theorem addC_eq_some {a b : Cost} {c : Int} (h : addC a b = some c) :
    ∃ x y, a = some x ∧ b = some y ∧ c = x + y := by
  cases a <;> cases b <;> simp [addC] at h ⊢
  omega

theorem addC_isSome {a b : Cost} : (addC a b).isSome = (a.isSome && b.isSome) := by
  cases a <;> cases b <;> simp [addC]



/-- symbol of a state (the `getD` default is `blank`, which is also the symbol of every even state) -/
def symOf (blank : Nat) (labels : List Nat) (s : Nat) : Nat := (states blank labels).getD s blank

theorem states_length (blank : Nat) (labels : List Nat) :
    (states blank labels).length = 2 * labels.length + 1 := by
  induction labels with
  | nil => simp [states]
  | cons l ls ih => simp [states, ih]; omega

theorem symOf_eq (blank : Nat) (labels : List Nat) (s : Nat) :
    symOf blank labels s = if s % 2 = 1 then labels.getD (s / 2) blank else blank := by
  induction labels generalizing s with
  | nil => rcases s with _ | _ | s <;> simp [symOf, states]
  | cons l ls ih =>
    rcases s with _ | _ | s
    · simp [symOf, states]
    · simp [symOf, states]
    · have := ih s
      simp only [symOf, states, List.getD_cons_succ] at this ⊢
      rw [this, show s + 1 + 1 = s + 2 from rfl, Nat.add_mod_right, Nat.add_div_right s (by decide),
        List.getD_cons_succ]

section
variable {blank : Nat} {labels : List Nat}

theorem symOf_of_even {e : Nat} (h : e % 2 = 0) : symOf blank labels e = blank := by
  simp [symOf_eq, h]

theorem half_lt {e n : Nat} (h : e % 2 = 1) (he : e < 2 * n + 1) : e / 2 < n := by omega

theorem half_le {e n : Nat} (he : e < 2 * n + 1) : (e + 1) / 2 ≤ n := by omega

theorem succ_odd {e : Nat} (h : e % 2 = 0) : (e + 1) % 2 = 1 := by omega

theorem succ_even {e : Nat} (h : e % 2 = 1) : (e + 1) % 2 = 0 := by omega

theorem half_even {e : Nat} (h : e % 2 = 0) : (e + 1) / 2 = e / 2 := by omega

theorem half_succ {e : Nat} (h : e % 2 = 1) : (e + 1) / 2 = e / 2 + 1 := by omega

theorem symOf_of_odd {e : Nat} (h : e % 2 = 1) (he : e < 2 * labels.length + 1) :
    symOf blank labels e = labels[e / 2]'(half_lt h he) := by
  simp [symOf_eq, h, half_lt h he]

theorem symOf_ne_blank (hb : blank ∉ labels) {e : Nat} (h : e % 2 = 1) (he : e < 2 * labels.length + 1) :
    symOf blank labels e ≠ blank := by
  rw [symOf_of_odd h he]
  exact fun h' => hb (h' ▸ List.getElem_mem _)

theorem getElem?_half {e : Nat} (h : e % 2 = 1) (he : e < 2 * labels.length + 1) :
    labels[e / 2]? = some (symOf blank labels e) := by
  rw [symOf_of_odd h he, List.getElem?_eq_getElem]

/-- the labels read when an odd state is entered -/
theorem take_half_odd {e : Nat} (h : e % 2 = 1) (he : e < 2 * labels.length + 1) :
    labels.take ((e + 1) / 2) = labels.take (e / 2) ++ [symOf blank labels e] := by
  rw [symOf_of_odd h he, half_succ h, List.take_succ_eq_append_getElem]

theorem allowed_iff (labels : List Nat) (j i : Nat) :
    allowed labels j i = true ↔
      i = j ∨ i = j + 1 ∨
        (i = j + 2 ∧ j % 2 = 1 ∧ j < 2 * labels.length + 1 - 2 ∧ labels[j / 2]? ≠ labels[j / 2 + 1]?) := by
  simp [allowed, and_assoc, or_assoc]

/-- prefix-admissible state path (snoc form) together with its last state -/
inductive PPath (labels : List Nat) : List Nat → Nat → Prop
  | start (s : Nat) : s < 2 → s < 2 * labels.length + 1 → PPath labels [s] s
  | step (q : List Nat) (j i : Nat) : PPath labels q j → allowed labels j i = true →
      i < 2 * labels.length + 1 → PPath labels (q ++ [i]) i

/-- admissible: ends in one of the last two states -/
def Adm (labels : List Nat) (q : List Nat) : Prop :=
  ∃ e, PPath labels q e ∧ 2 * labels.length + 1 - 2 ≤ e

theorem PPath.ne_nil {labels q e} (h : PPath labels q e) : q ≠ [] := by
  cases h <;> simp

theorem PPath.getLast? {labels q e} (h : PPath labels q e) : q.getLast? = some e := by
  cases h <;> simp

theorem PPath.last_lt {labels q e} (h : PPath labels q e) : e < 2 * labels.length + 1 := by
  cases h <;> assumption

theorem PPath.all_lt {labels q e} (h : PPath labels q e) : ∀ s ∈ q, s < 2 * labels.length + 1 := by
  induction h with
  | start s h1 h2 => simp; exact h2
  | step q j i hq ha hi ih =>
    intro s hs
    simp at hs
    rcases hs with hs | rfl
    · exact ih s hs
    · exact hi

theorem allowed_self (labels : List Nat) (j : Nat) : allowed labels j j = true := by
  rw [allowed_iff]; exact Or.inl rfl

theorem allowed_succ (labels : List Nat) (j : Nat) : allowed labels j (j + 1) = true := by
  rw [allowed_iff]; exact Or.inr (Or.inl rfl)

/-- One transition of the automaton is one step of `collapse_snoc`. -/
theorem take_step (hb : blank ∉ labels) {j i : Nat} (ha : allowed labels j i = true)
    (hj : j < 2 * labels.length + 1) (hi : i < 2 * labels.length + 1) :
    labels.take ((j + 1) / 2) ++
        (if symOf blank labels i = blank ∨ symOf blank labels j = symOf blank labels i then []
          else [symOf blank labels i]) =
      labels.take ((i + 1) / 2) := by
  rw [allowed_iff] at ha
  rcases ha with rfl | rfl | ⟨rfl, hjo, _, hne⟩
  · rw [if_pos (Or.inr rfl), List.append_nil]
  · rcases Nat.mod_two_eq_zero_or_one j with hje | hjo
    · have ho := succ_odd hje
      have h1 := symOf_ne_blank hb ho hi
      rw [if_neg (by rw [symOf_of_even hje]; exact not_or.2 ⟨h1, h1.symm⟩), take_half_odd ho hi]
    · have he := succ_even hjo
      rw [if_pos (Or.inl (symOf_of_even he)), List.append_nil, half_even he]
  · have ho : (j + 2) % 2 = 1 := by rwa [Nat.add_mod_right]
    have h2 : symOf blank labels j ≠ symOf blank labels (j + 2) := by
      intro h; apply hne
      rw [getElem?_half hjo hj, h, ← getElem?_half ho hi, Nat.add_div_right j (by decide)]
    rw [if_neg (not_or.2 ⟨symOf_ne_blank hb ho hi, h2⟩), take_half_odd ho hi,
      Nat.add_div_right j (by decide), half_succ hjo]

theorem allowed_start {s : Nat} (h : s < 2) : allowed labels 0 s = true := by
  rcases s with _ | _ | s
  · exact allowed_self _ _
  · exact allowed_succ _ _
  · omega

theorem PPath.collapse_eq {q e} (hb : blank ∉ labels) (h : PPath labels q e) :
    collapse blank (q.map (symOf blank labels)) = labels.take ((e + 1) / 2) := by
  induction h with
  | start s h1 h2 =>
    have := take_step hb (allowed_start h1) (by omega) h2
    rw [symOf_of_even (Nat.zero_mod 2)] at this
    simpa [collapse, collapseAux, eq_comm] using this
  | step q j i hq ha hi ih =>
    rw [List.map_append, List.map_singleton, collapse_snoc, ih, List.getLast?_map, hq.getLast?]
    simpa using take_step hb ha hq.last_lt hi

theorem Adm.collapse_eq {blank : Nat} {labels q} (hb : blank ∉ labels) (h : Adm labels q) :
    collapse blank (q.map (symOf blank labels)) = labels := by
  obtain ⟨e, hp, he⟩ := h
  rw [hp.collapse_eq hb]
  have := hp.last_lt
  apply List.take_of_length_le
  omega

theorem symOf_ne_blank_odd {blank : Nat} {labels : List Nat} (e : Nat)
    (h : symOf blank labels e ≠ blank) : e % 2 = 1 := by
  rcases Nat.mod_two_eq_zero_or_one e with h0 | h1
  · exact absurd (symOf_of_even h0) h
  · exact h1

/-- Converse of `take_step`: a step of `collapse_snoc` that stays a prefix of the labels is a transition. -/
theorem step_of_take (hb : blank ∉ labels) {j s k : Nat} (hj : j < 2 * labels.length + 1)
    (hk : k ≤ labels.length)
    (h : labels.take ((j + 1) / 2) ++ (if s = blank ∨ symOf blank labels j = s then [] else [s]) =
      labels.take k) :
    ∃ i, i < 2 * labels.length + 1 ∧ allowed labels j i = true ∧ symOf blank labels i = s ∧
      (i + 1) / 2 = k := by
  -- `k` is determined by `i` through `take_step`
  suffices ∃ i, i < 2 * labels.length + 1 ∧ allowed labels j i = true ∧ symOf blank labels i = s by
    obtain ⟨i, hi, ha, rfl⟩ := this
    have := congrArg List.length ((take_step hb ha hj hi).symm.trans h)
    simp only [List.length_take, Nat.min_eq_left (half_le hi), Nat.min_eq_left hk] at this
    exact ⟨i, hi, ha, rfl, this⟩
  by_cases hs : symOf blank labels j = s
  · exact ⟨j, hj, allowed_self _ _, hs⟩
  by_cases hsb : s = blank
  · have hjo := symOf_ne_blank_odd j (hsb ▸ hs)
    exact ⟨j + 1, by omega, allowed_succ _ _, hsb ▸ symOf_of_even (succ_even hjo)⟩
  -- a label is emitted: the next label state, `j + 1` or `j + 2`
  rw [if_neg (not_or.2 ⟨hsb, hs⟩)] at h
  have hlen := congrArg List.length h
  simp only [List.length_append, List.length_take, List.length_singleton,
    Nat.min_eq_left (half_le hj), Nat.min_eq_left hk] at hlen
  have hs' : labels[(j + 1) / 2]? = some s := by
    have := congrArg (·[(j + 1) / 2]?) h
    simpa [List.getElem?_append_right, List.getElem?_take, Nat.min_eq_left (half_le hj), ← hlen] using this.symm
  by_cases hjo : j % 2 = 1
  · have ho : (j + 2) % 2 = 1 := by rwa [Nat.add_mod_right]
    have hi : j + 2 < 2 * labels.length + 1 := by omega
    have hsi : symOf blank labels (j + 2) = s := by
      rw [half_succ hjo, ← Nat.add_div_right j (by decide), getElem?_half ho hi] at hs'
      exact Option.some.inj hs'
    refine ⟨j + 2, hi, ?_, hsi⟩
    rw [allowed_iff]
    refine Or.inr (Or.inr ⟨rfl, hjo, Nat.lt_sub_of_add_lt hi, ?_⟩)
    rw [getElem?_half hjo hj, ← Nat.add_div_right j (by decide), getElem?_half ho hi, hsi]
    exact fun h' => hs (Option.some.inj h')
  · have ho := succ_odd (Nat.mod_two_ne_one.1 hjo)
    have hi : j + 1 < 2 * labels.length + 1 := by omega
    rw [getElem?_half ho hi] at hs'
    exact ⟨j + 1, hi, allowed_succ _ _, Option.some.inj hs'⟩

theorem exists_ppath_of_collapse (hb : blank ∉ labels) :
    ∀ π : List Nat, π ≠ [] → ∀ k, k ≤ labels.length → collapse blank π = labels.take k →
      ∃ q e, PPath labels q e ∧ q.map (symOf blank labels) = π ∧ (e + 1) / 2 = k := by
  intro π
  induction π using ListAux.snoc_induction with
  | nil => intro h; exact absurd rfl h
  | snoc π' s ih =>
    intro _ k hk hc
    rw [collapse_snoc] at hc
    by_cases hnil : π' = []
    · subst hnil
      obtain ⟨i, hi, ha, hs, he⟩ := step_of_take hb (j := 0) (by omega) hk
        (by simpa [symOf_of_even, eq_comm, collapse_nil] using hc)
      rw [allowed_iff] at ha
      exact ⟨[i], i, PPath.start i (by omega) hi, by simp [hs], he⟩
    · have hpre : collapse blank π' <+: labels :=
        (hc ▸ List.prefix_append _ _).trans (List.take_prefix _ _)
      obtain ⟨q', e', hp, rfl, he⟩ := ih hnil _ hpre.length_le (List.prefix_iff_eq_take.1 hpre)
      rw [List.prefix_iff_eq_take.1 hpre, ← he, List.getLast?_map, hp.getLast?] at hc
      obtain ⟨i, hi, ha, hs, hk'⟩ := step_of_take hb hp.last_lt hk (by simpa using hc)
      exact ⟨q' ++ [i], i, PPath.step _ _ _ hp ha hi, by simp [hs], hk'⟩

end

theorem exists_adm_of_collapse {blank : Nat} {labels : List Nat} (hb : blank ∉ labels)
    (hne : labels ≠ []) (π : List Nat) (hc : collapse blank π = labels) :
    ∃ q, Adm labels q ∧ q.map (symOf blank labels) = π := by
  have hπ : π ≠ [] := by
    intro h; subst h; rw [collapse_nil] at hc; exact hne hc.symm
  obtain ⟨q, e, hp, hm, he⟩ :=
    exists_ppath_of_collapse hb π hπ labels.length (Nat.le_refl _) (by simpa using hc)
  exact ⟨q, ⟨e, hp, by omega⟩, hm⟩



theorem pathCost_snoc (fs : List (List Cost)) (f : List Cost) (q : List Nat) (i : Nat)
    (hl : fs.length = q.length) :
    pathCost (fs ++ [f]) (q ++ [i]) = addC (pathCost fs q) (f.getD i none) := by
  induction fs generalizing q with
  | nil =>
    cases q with
    | nil => simp [pathCost, addC_zero_right]; cases f[i]?.getD none <;> simp [addC]
    | cons a q => simp at hl
  | cons g fs ih =>
    cases q with
    | nil => simp at hl
    | cons a q =>
      simp only [List.length_cons, Nat.add_right_cancel_iff] at hl
      simp only [List.cons_append, pathCost, ih q hl, addC_assoc]

theorem pathCost_isSome_length {M : List (List Cost)} {p : List Nat}
    (h : (pathCost M p).isSome = true) : p.length = M.length := by
  induction M generalizing p with
  | nil => cases p <;> simp [pathCost] at h ⊢
  | cons r M ih =>
    cases p with
    | nil => simp [pathCost] at h
    | cons s p =>
      simp only [pathCost, addC_isSome, Bool.and_eq_true] at h
      simp [ih h.2]

/-- path reconstructed from backpointers (newest row first), ending in `s` -/
def bt : List (List Nat) → Nat → List Nat
  | [], s => [s]
  | bp :: rest, s => bt rest (bp.getD s 0) ++ [s]

theorem backtrack_eq (bps : List (List Nat)) (s : Nat) (acc : List Nat) :
    backtrack bps s acc = bt bps s ++ acc := by
  induction bps generalizing s acc with
  | nil => simp [backtrack, bt]
  | cons bp rest ih => simp [backtrack, bt, ih]

/-- `updateCell` is the minimum over the allowed sources (or `+∞`), together with a source that attains it. -/
theorem updateCell_spec (labels : List Nat) (act : List Cost) (fi : Cost) (i : Nat) :
    (∀ j ∈ List.range act.length, allowed labels j i = true →
      leC (updateCell labels act fi i).1 (addC (act.getD j none) fi) = true) ∧
    ((updateCell labels act fi i).1 = none ∨
      (updateCell labels act fi i).2 ∈ List.range act.length ∧
        allowed labels (updateCell labels act fi i).2 i = true ∧
        (updateCell labels act fi i).1 = addC (act.getD (updateCell labels act fi i).2 none) fi) := by
  unfold updateCell
  refine ListAux.foldl_inv
    (fun (pre : List Nat) (st : Cost × Nat) =>
      (∀ j ∈ pre, allowed labels j i = true → leC st.1 (addC (act.getD j none) fi) = true) ∧
      (st.1 = none ∨ st.2 ∈ pre ∧ allowed labels st.2 i = true ∧ st.1 = addC (act.getD st.2 none) fi))
    _ _ _ ⟨by simp, .inl rfl⟩ ?_
  intro pre j st _ ⟨h1, h2⟩
  simp only [List.mem_append, List.mem_singleton]
  have h2' := h2.imp_right fun h => (⟨.inl h.1, h.2⟩ : (st.2 ∈ pre ∨ st.2 = j) ∧ _)
  by_cases ha : allowed labels j i = true
  · by_cases hlt : ltC (addC (act.getD j none) fi) st.1 = true
    · simp only [if_pos ha, if_pos hlt]
      exact ⟨fun j' hj' ha' => hj'.elim (fun hj' => leC_trans (leC_of_ltC hlt) (h1 j' hj' ha'))
        (· ▸ leC_refl _), .inr ⟨.inr trivial, ha, trivial⟩⟩
    · simp only [if_pos ha, if_neg hlt]
      have hle := leC_of_not_ltC (Bool.eq_false_iff.2 hlt)
      exact ⟨fun j' hj' ha' => hj'.elim (h1 j' · ha') (· ▸ hle), h2'⟩
  · simp only [if_neg ha]
    exact ⟨fun j' hj' ha' => hj'.elim (h1 j' · ha') fun e => absurd (e ▸ ha') ha, h2'⟩

theorem argminC_go_eq (best : Cost) (bi i : Nat) (ys : List Cost) :
    argminC.go best bi i ys = ListAux.scanFirst (fun a b => ltC b a) best bi i ys := by
  induction ys generalizing best bi i with
  | nil => rfl
  | cons y ys ih =>
    simp only [argminC.go, ListAux.scanFirst]
    split <;> exact ih ..

theorem strictWeak_ltC : ListAux.StrictWeak fun a b : Cost => ltC b a :=
  ⟨fun a => by cases a <;> simp [ltC],
    fun {b x y} h h' => by cases b <;> cases x <;> cases y <;> simp [ltC] at h h' ⊢; omega,
    fun {a b} h => by cases a <;> cases b <;> simp [ltC] at h ⊢; omega⟩

theorem argminC_spec (l : List Cost) (hl : l ≠ []) :
    (argminC l).1 < l.length ∧ l.getD (argminC l).1 none = (argminC l).2 ∧
    ∀ i, leC (argminC l).2 (l.getD i none) = true := by
  cases l with
  | nil => exact absurd rfl hl
  | cons x xs =>
    obtain ⟨h1, h2, -⟩ := ListAux.scanFirst_head_spec strictWeak_ltC x xs
    simp only [argminC, argminC_go_eq]
    refine ⟨(List.getElem?_eq_some_iff.1 h1).1, by rw [List.getD_eq_getElem?_getD, h1]; rfl, fun i => ?_⟩
    rw [List.getD_eq_getElem?_getD]
    cases hi : (x :: xs)[i]? with
    | none => exact leC_none _
    | some y => simpa [leC] using h2 y (List.mem_of_getElem? hi)

theorem update_length (labels : List Nat) (act : List Cost) (fr : List Cost) :
    (update labels act fr).1.length = act.length := by
  simp [update]

theorem update_cost_getD (labels : List Nat) (act : List Cost) (fr : List Cost) (i : Nat)
    (hi : i < act.length) :
    (update labels act fr).1.getD i none = (updateCell labels act (fr.getD i none) i).1 := by
  simp [update, hi]

theorem update_bp_getD (labels : List Nat) (act : List Cost) (fr : List Cost) (i : Nat)
    (hi : i < act.length) :
    (update labels act fr).2.getD i 0 = (updateCell labels act (fr.getD i none) i).2 := by
  simp [update, hi]


/-- DP invariant after processing the frames `fs` -/
def Inv (labels : List Nat) (fs : List (List Cost)) (act : List Cost) (bps : List (List Nat)) : Prop :=
  0 < fs.length ∧
  act.length = 2 * labels.length + 1 ∧
  (∀ q e, PPath labels q e → q.length = fs.length →
    leC (act.getD e none) (pathCost fs q) = true) ∧
  (∀ e, e < 2 * labels.length + 1 → ∀ c, act.getD e none = some c →
    PPath labels (bt bps e) e ∧ (bt bps e).length = fs.length ∧ pathCost fs (bt bps e) = some c)

/-- entry `i` of a row that is `f` on the states satisfying `p` and `+∞` elsewhere (`firstRow`, `finalRow`) -/
theorem getD_range_map_ite (n : Nat) (p : Nat → Prop) [DecidablePred p] (f : Nat → Cost) (i : Nat) :
    ((List.range n).map fun i => if p i then f i else none).getD i none =
      if p i ∧ i < n then f i else none := by
  simp only [List.getD_eq_getElem?_getD, List.getElem?_map]
  by_cases h : i < n <;> simp [h]

def firstRow (labels : List Nat) (f0 : List Cost) : List Cost :=
  (List.range (2 * labels.length + 1)).map fun i => if i < 2 then f0.getD i none else none

theorem inv_base (labels : List Nat) (f0 : List Cost) :
    Inv labels [f0] (firstRow labels f0) [] := by
  refine ⟨by simp, by simp [firstRow], ?_, ?_⟩
  · intro q e hp hl
    cases hp with
    | start s h1 h2 =>
      rw [firstRow, getD_range_map_ite]
      simp [h1, h2, pathCost, addC_zero_right, leC_refl]
    | step q j i hq ha hi =>
      have := List.length_pos_iff.2 hq.ne_nil
      simp only [List.length_append, List.length_cons, List.length_nil] at hl; omega
  · intro e he c hc
    rw [firstRow, getD_range_map_ite] at hc
    by_cases h : e < 2 ∧ e < 2 * labels.length + 1
    · rw [if_pos h] at hc
      refine ⟨PPath.start e h.1 h.2, by simp [bt], ?_⟩
      simp only [bt, pathCost, addC_zero_right]; exact hc
    · rw [if_neg h] at hc; simp at hc

theorem inv_step (labels : List Nat) (fs : List (List Cost)) (act : List Cost)
    (bps : List (List Nat)) (fr : List Cost) (h : Inv labels fs act bps) :
    Inv labels (fs ++ [fr]) (update labels act fr).1 ((update labels act fr).2 :: bps) := by
  obtain ⟨hpos, hlen, hlow, hach⟩ := h
  refine ⟨by simp, by rw [update_length, hlen], ?_, ?_⟩
  · intro q' e hp hl
    cases hp with
    | start s h1 h2 =>
      simp only [List.length_append, List.length_cons, List.length_nil] at hl; omega
    | step q j i hq ha hi =>
      have hql : q.length = fs.length := by simpa using hl
      rw [pathCost_snoc _ _ _ _ hql.symm, update_cost_getD _ _ _ _ (hlen ▸ hi)]
      refine leC_trans ((updateCell_spec labels act _ _).1 j (List.mem_range.2 (hlen ▸ hq.last_lt)) ha) ?_
      exact addC_mono_left _ (hlow q j hq hql)
  · intro e he c hc
    rw [update_cost_getD _ _ _ _ (hlen ▸ he)] at hc
    rcases (updateCell_spec labels act (fr.getD e none) e).2 with hn | ⟨hb1, hb2, hb3⟩
    · rw [hn] at hc; cases hc
    rw [List.mem_range] at hb1
    obtain ⟨x, y, hx, hy, hxy⟩ := addC_eq_some (hb3 ▸ hc)
    simp only [bt]
    rw [update_bp_getD _ _ _ _ (hlen ▸ he)]
    obtain ⟨hp, hl, hcst⟩ := hach _ (hlen ▸ hb1) x hx
    refine ⟨PPath.step _ _ _ hp hb2 he, by simp only [List.length_append, List.length_singleton, hl], ?_⟩
    rw [pathCost_snoc _ _ _ _ hl.symm, hcst, hy, hxy]; rfl

theorem inv_fold (labels : List Nat) (rest : List (List Cost)) :
    ∀ (fs : List (List Cost)) (act : List Cost) (bps : List (List Nat)), Inv labels fs act bps →
    Inv labels (fs ++ rest)
      (rest.foldl (fun (st : List Cost × List (List Nat)) fr =>
        let (c, bp) := update labels st.1 fr
        (c, bp :: st.2)) (act, bps)).1
      (rest.foldl (fun (st : List Cost × List (List Nat)) fr =>
        let (c, bp) := update labels st.1 fr
        (c, bp :: st.2)) (act, bps)).2 := by
  induction rest with
  | nil => intro fs act bps h; simpa using h
  | cons fr rest ih =>
    intro fs act bps h
    have := ih _ _ _ (inv_step labels fs act bps fr h)
    simpa [List.foldl_cons] using this



def finalRow (labels : List Nat) (act : List Cost) : List Cost :=
  (List.range (2 * labels.length + 1)).map fun i =>
    if 2 * labels.length + 1 - 2 ≤ i then act.getD i none else none

theorem finalRow_ne_nil (labels : List Nat) (act : List Cost) : finalRow labels act ≠ [] := by
  intro h
  have := congrArg List.length h
  simp [finalRow] at this

def vfold (labels : List Nat) (f0 : List Cost) (rest : List (List Cost)) :
    List Cost × List (List Nat) :=
  rest.foldl (fun (st : List Cost × List (List Nat)) fr =>
    let (c, bp) := update labels st.1 fr
    (c, bp :: st.2)) (firstRow labels f0, [])

theorem viterbi_cons (labels : List Nat) (f0 : List Cost) (rest : List (List Cost)) :
    viterbi labels (f0 :: rest) =
      match (argminC (finalRow labels (vfold labels f0 rest).1)).2 with
      | none => .error .unalignable
      | some _ => .ok (backtrack (vfold labels f0 rest).2
          (argminC (finalRow labels (vfold labels f0 rest).1)).1 []) := rfl

theorem vfold_inv (labels : List Nat) (f0 : List Cost) (rest : List (List Cost)) :
    Inv labels (f0 :: rest) (vfold labels f0 rest).1 (vfold labels f0 rest).2 :=
  inv_fold labels rest [f0] _ _ (inv_base labels f0)

/-- What `viterbi` computes on at least one frame: the final minimum `m` bounds every admissible path of full
length from below, and if it is finite the backtracked path is admissible and attains it. -/
theorem viterbi_spec (labels : List Nat) (f0 : List Cost) (rest : List (List Cost)) :
    ∃ (p : List Nat) (m : Cost),
      viterbi labels (f0 :: rest) = (match m with | none => .error .unalignable | some _ => .ok p) ∧
      (∀ q, Adm labels q → q.length = (f0 :: rest).length →
        leC m (pathCost (f0 :: rest) q) = true) ∧
      ∀ c, m = some c → Adm labels p ∧ p.length = (f0 :: rest).length ∧
        pathCost (f0 :: rest) p = some c := by
  obtain ⟨_, _, hlow, hach⟩ := vfold_inv labels f0 rest
  obtain ⟨-, h2, h3⟩ := argminC_spec _ (finalRow_ne_nil labels (vfold labels f0 rest).1)
  refine ⟨_, _, by rw [viterbi_cons, backtrack_eq, List.append_nil], ?_, ?_⟩
  · intro q ⟨e, hq, he⟩ hql
    have := h3 e
    rw [finalRow, getD_range_map_ite, if_pos ⟨he, hq.last_lt⟩] at this
    exact leC_trans this (hlow q e hq hql)
  · intro c hc
    rw [← h2, finalRow, getD_range_map_ite] at hc
    split at hc
    · rename_i hcond
      obtain ⟨hp, hl, hcst⟩ := hach _ hcond.2 c hc
      exact ⟨⟨_, hp, hcond.1⟩, hl, hcst⟩
    · cases hc


theorem expand_getD {row : List Cost} {sts : List Nat} {fr : List Cost} (blank : Nat)
    (h : expand row sts = some fr) (s : Nat) (hs : s < sts.length) :
    fr.getD s none = row.getD (sts.getD s blank) none := by
  have hs' : s < fr.length := by rw [ListAux.length_of_mapM_option h]; exact hs
  have := ListAux.getElem_of_mapM_option h s hs hs'
  simp only [List.getD_eq_getElem?_getD, List.getElem?_eq_getElem hs, List.getElem?_eq_getElem hs',
    Option.getD_some, this]

theorem pathCost_transfer (blank : Nat) (labels : List Nat) :
    ∀ (M frames : List (List Cost)) (q : List Nat),
      M.mapM (fun row => expand row (states blank labels)) = some frames →
      (∀ s ∈ q, s < 2 * labels.length + 1) →
      pathCost frames q = pathCost M (q.map (symOf blank labels)) := by
  intro M
  induction M with
  | nil =>
    intro frames q h _
    simp only [List.mapM_nil] at h
    cases h
    cases q <;> simp [pathCost]
  | cons row M ih =>
    intro frames q h hq
    obtain ⟨fr, frs, hfr, hfrs, rfl⟩ := ListAux.mapM_option_cons_eq_some.1 h
    cases q with
    | nil => simp [pathCost]
    | cons s q =>
      simp only [List.map_cons, pathCost]
      rw [ih frs q hfrs (fun x hx => hq x (List.mem_cons_of_mem _ hx))]
      have hs : s < (states blank labels).length := by
        rw [states_length]; exact hq s (List.mem_cons_self)
      rw [expand_getD blank hfr s hs]
      rfl

theorem mapM_expand_length {blank : Nat} {labels : List Nat} {M frames : List (List Cost)}
    (h : M.mapM (fun row => expand row (states blank labels)) = some frames) :
    frames.length = M.length := ListAux.length_of_mapM_option h



theorem statePath_ok {M : List (List Cost)} {labels : List Nat} {blank : Nat} {p : List Nat}
    (h : statePath M labels blank = .ok p) :
    blank ∉ labels ∧ labels ≠ [] ∧
    ∃ frames, M.mapM (fun row => expand row (states blank labels)) = some frames ∧
      viterbi labels frames = .ok p := by
  unfold statePath at h
  by_cases hb : blank ∈ labels
  · simp [hb] at h
  · by_cases hne : labels = []
    · simp [hne] at h
    · simp only [hb, hne, if_false] at h
      cases hm : M.mapM (fun row => expand row (states blank labels)) with
      | none => simp [hm] at h
      | some frames =>
        simp only [hm] at h
        exact ⟨hb, hne, frames, rfl, h⟩

theorem statePath_eq_of_mapM {M : List (List Cost)} {labels : List Nat} {blank : Nat}
    {frames : List (List Cost)} (hb : blank ∉ labels) (hne : labels ≠ [])
    (hm : M.mapM (fun row => expand row (states blank labels)) = some frames) :
    statePath M labels blank = viterbi labels frames := by
  unfold statePath
  simp only [hb, hne, if_false, hm]

theorem map_eq_ok {ε α β : Type} {f : α → β} {x : Except ε α} {b : β} :
    x.map f = .ok b ↔ ∃ a, x = .ok a ∧ b = f a := by
  cases x <;> simp [Except.map, eq_comm]

theorem map_eq_error {ε α β : Type} {f : α → β} {x : Except ε α} {e : ε} :
    x.map f = .error e ↔ x = .error e := by
  cases x <;> simp [Except.map]

theorem forceAlign_ok {M : List (List Cost)} {labels : List Nat} {blank : Nat} {π : List Nat}
    (h : forceAlign M labels blank = .ok π) :
    ∃ p, statePath M labels blank = .ok p ∧ π = p.map (symOf blank labels) :=
  map_eq_ok.1 h

theorem forceAlign_error {M : List (List Cost)} {labels : List Nat} {blank : Nat} {e : Err} :
    forceAlign M labels blank = .error e ↔ statePath M labels blank = .error e :=
  map_eq_error

theorem mem_states {blank : Nat} {labels : List Nat} {s : Nat} (h : s ∈ states blank labels) :
    s = blank ∨ s ∈ labels := by
  induction labels with
  | nil => simp [states] at h; exact Or.inl h
  | cons l ls ih =>
    simp only [states, List.mem_cons] at h
    rcases h with h | h | h
    · exact Or.inl h
    · exact Or.inr (by simp [h])
    · rcases ih h with h | h
      · exact Or.inl h
      · exact Or.inr (List.mem_cons_of_mem _ h)

theorem mapM_expand_exists (blank : Nat) (labels : List Nat) (M : List (List Cost))
    (h : ∀ row ∈ M, blank < row.length ∧ ∀ l ∈ labels, l < row.length) :
    ∃ frames, M.mapM (fun row => expand row (states blank labels)) = some frames := by
  refine ListAux.mapM_option_defined fun row hrow => ListAux.mapM_option_defined fun s hs => ?_
  obtain ⟨h1, h2⟩ := h row hrow
  have : s < row.length := (mem_states hs).elim (· ▸ h1) (h2 s)
  exact ⟨row[s], List.getElem?_eq_getElem this⟩

/-- What `statePath` computes when every frame expands: the minimum `m` of `pathCost M` over the frame paths
that collapse to the labels, and a state path whose symbols attain it. -/
theorem statePath_spec {M : List (List Cost)} {labels : List Nat} {blank : Nat}
    {frames : List (List Cost)} (hb : blank ∉ labels) (hne : labels ≠ []) (hM : M ≠ [])
    (hm : M.mapM (fun row => expand row (states blank labels)) = some frames) :
    ∃ (p : List Nat) (m : Cost),
      statePath M labels blank = (match m with | none => .error .unalignable | some _ => .ok p) ∧
      (∀ π, π.length = M.length → collapse blank π = labels → leC m (pathCost M π) = true) ∧
      ∀ c, m = some c → Adm labels p ∧ p.length = M.length ∧
        pathCost M (p.map (symOf blank labels)) = some c := by
  have hfl := mapM_expand_length hm
  rw [statePath_eq_of_mapM hb hne hm]
  cases frames with
  | nil => exact absurd (List.eq_nil_of_length_eq_zero hfl.symm) hM
  | cons f0 rest =>
    obtain ⟨p, m, hv, hlow, hach⟩ := viterbi_spec labels f0 rest
    refine ⟨p, m, hv, ?_, ?_⟩
    · intro π hl hc
      obtain ⟨q, ⟨e, hq, he⟩, rfl⟩ := exists_adm_of_collapse hb hne π hc
      rw [← pathCost_transfer blank labels M _ q hm hq.all_lt]
      exact hlow q ⟨e, hq, he⟩ (by rw [hfl, ← hl, List.length_map])
    · intro c hc
      obtain ⟨⟨e, hp, he⟩, hl, hcst⟩ := hach c hc
      exact ⟨⟨e, hp, he⟩, hl.trans hfl, by rwa [← pathCost_transfer blank labels M _ p hm hp.all_lt]⟩

/-- everything one needs to know about a successful run -/
theorem statePath_ok_spec {M : List (List Cost)} {labels : List Nat} {blank : Nat} {p : List Nat}
    (hsp : statePath M labels blank = .ok p) :
    blank ∉ labels ∧ labels ≠ [] ∧ Adm labels p ∧ p.length = M.length ∧
      (pathCost M (p.map (symOf blank labels))).isSome = true ∧
      ∀ π', π'.length = M.length → collapse blank π' = labels →
        leC (pathCost M (p.map (symOf blank labels))) (pathCost M π') = true := by
  obtain ⟨hb, hne, frames, hm, hv⟩ := statePath_ok hsp
  have hM : M ≠ [] := by
    rintro rfl
    cases hm
    cases hv
  obtain ⟨p', m, hs, hlow, hach⟩ := statePath_spec hb hne hM hm
  rw [hsp] at hs
  cases m with
  | none => cases hs
  | some c =>
    cases hs
    obtain ⟨ha, hl, hc⟩ := hach c rfl
    exact ⟨hb, hne, ha, hl, by simp [hc], fun π' hl' hc' => hc ▸ hlow π' hl' hc'⟩

theorem forceAlign_ok_spec {M : List (List Cost)} {labels : List Nat} {blank : Nat} {π : List Nat}
    (h : forceAlign M labels blank = .ok π) :
    blank ∉ labels ∧ labels ≠ [] ∧
    ∃ p, statePath M labels blank = .ok p ∧ π = p.map (symOf blank labels) ∧ Adm labels p ∧
      p.length = M.length ∧ (pathCost M π).isSome = true ∧
      ∀ π', π'.length = M.length → collapse blank π' = labels →
        leC (pathCost M π) (pathCost M π') = true := by
  obtain ⟨p, hsp, rfl⟩ := forceAlign_ok h
  obtain ⟨hb, hne, h⟩ := statePath_ok_spec hsp
  exact ⟨hb, hne, p, hsp, rfl, h⟩

theorem forceAlign_fails {M : List (List Cost)} {labels : List Nat} {blank : Nat}
    (hb : blank ∉ labels) (hne : labels ≠ []) (hM : M ≠ [])
    (hwf : ∀ row ∈ M, blank < row.length ∧ ∀ l ∈ labels, l < row.length) :
    (forceAlign M labels blank = .error .unalignable ↔
      ¬ ∃ π : List Nat, π.length = M.length ∧ collapse blank π = labels ∧
        (pathCost M π).isSome = true) ∧
    (∀ e, forceAlign M labels blank = .error e → e = .unalignable) := by
  obtain ⟨frames, hm⟩ := mapM_expand_exists blank labels M hwf
  obtain ⟨p, m, hs, hlow, hach⟩ := statePath_spec hb hne hM hm
  simp only [forceAlign_error, hs]
  cases m with
  | none =>
    refine ⟨⟨fun _ ⟨π, hl, hc, hfin⟩ => ?_, fun _ => rfl⟩, fun e he => (Except.error.inj he).symm⟩
    rw [leC_none_left (hlow π hl hc)] at hfin
    cases hfin
  | some c =>
    obtain ⟨ha, hl, hc⟩ := hach c rfl
    refine ⟨⟨fun h => ?_, fun hno => ?_⟩, fun e he => ?_⟩
    · cases h
    · exact absurd ⟨_, by simpa using hl, ha.collapse_eq hb, by simp [hc]⟩ hno
    · cases he


theorem PPath.visits {labels q e} (h : PPath labels q e) :
    ∀ o, o % 2 = 1 → o ≤ e → o ∈ q := by
  induction h with
  | start s h1 h2 =>
    intro o ho hoe
    have : o = s := by omega
    simp [this]
  | step q j i hq ha hi ih =>
    intro o ho hoe
    rw [allowed_iff] at ha
    by_cases hoj : o ≤ j
    · exact List.mem_append_left _ (ih o ho hoj)
    · have : o = i := by omega
      simp [this]

theorem allowed_le {labels : List Nat} {j i : Nat} (ha : allowed labels j i = true) : j ≤ i := by
  rw [allowed_iff] at ha; omega

theorem PPath.le_last {labels q e} (h : PPath labels q e) : ∀ s ∈ q, s ≤ e := by
  induction h with
  | start s h1 h2 => simp
  | step q j i hq ha hi ih =>
    intro s hs
    rcases List.mem_append.1 hs with hs | hs
    · exact Nat.le_trans (ih s hs) (allowed_le ha)
    · exact Nat.le_of_eq (List.mem_singleton.1 hs)

theorem PPath.sorted {labels q e} (h : PPath labels q e) : q.Pairwise (· ≤ ·) := by
  induction h with
  | start s h1 h2 => simp
  | step q j i hq ha hi ih =>
    rw [List.pairwise_append]
    exact ⟨ih, List.pairwise_singleton _ _, fun a ha' b hb =>
      List.mem_singleton.1 hb ▸ Nat.le_trans (hq.le_last a ha') (allowed_le ha)⟩

theorem sorted_index_lt {q : List Nat} (hs : q.Pairwise (· ≤ ·)) {a b x y : Nat}
    (ha : q[a]? = some x) (hb : q[b]? = some y) (hxy : x < y) : a < b := by
  rw [List.pairwise_iff_getElem] at hs
  obtain ⟨ha1, ha2⟩ := List.getElem?_eq_some_iff.mp ha
  obtain ⟨hb1, hb2⟩ := List.getElem?_eq_some_iff.mp hb
  by_cases h : a < b
  · exact h
  · exfalso
    by_cases hab : a = b
    · subst hab; omega
    · have := hs b a hb1 ha1 (by omega)
      omega


def posOf (s : Nat) : Option Nat := if s % 2 = 1 then some (s / 2) else none

def block (pos : List (Option Nat)) (i : Nat) : List Nat :=
  (List.range pos.length).filter fun t => pos.getD t none == some i

def pick (M : List (List Cost)) (pos : List (Option Nat)) (i : Nat) : Nat :=
  (block pos i).getD (argminC ((block pos i).map fun t => frameMin (M.getD t []))).1 0

theorem posOf_eq_some (s i : Nat) : posOf s = some i ↔ s = 2 * i + 1 := by
  unfold posOf
  by_cases h : s % 2 = 1
  · simp [h]; omega
  · simp [h]; omega

theorem pos_getElem?_iff (p : List Nat) (t i : Nat) :
    (p.map posOf)[t]? = some (some i) ↔ p[t]? = some (2 * i + 1) := by
  rw [List.getElem?_map]
  cases h : p[t]? with
  | none => simp
  | some s => simp [posOf_eq_some]

theorem mem_block_iff (p : List Nat) (t i : Nat) :
    t ∈ block (p.map posOf) i ↔ p[t]? = some (2 * i + 1) := by
  unfold block
  rw [List.mem_filter, List.mem_range, List.getD_eq_getElem?_getD, beq_iff_eq, ← pos_getElem?_iff]
  constructor
  · rintro ⟨h1, h2⟩
    rw [List.getElem?_eq_getElem h1] at h2 ⊢
    simpa using h2
  · intro h
    obtain ⟨h1, _⟩ := List.getElem?_eq_some_iff.mp h
    exact ⟨h1, by rw [h]; rfl⟩

theorem alignText_eq (M : List (List Cost)) (labels : List Nat) (blank : Nat) :
    alignText M labels blank =
      (forceAlignPos M labels blank).map fun pos =>
        (List.range labels.length).map fun i =>
          match block pos i with
          | [] => none
          | _ => some (pick M pos i) := rfl

theorem match_ne_nil {α β : Type} (x : β) : ∀ l : List α, l ≠ [] →
    (match l with | [] => none | _ => some x) = some x := by
  intro l h
  cases l with
  | nil => exact absurd rfl h
  | cons a l => rfl

theorem argmin_pick (fm : Nat → Cost) (l : List Nat) (h : l ≠ []) :
    l.getD (argminC (l.map fm)).1 0 ∈ l ∧
    ∀ t ∈ l, leC (fm (l.getD (argminC (l.map fm)).1 0)) (fm t) = true := by
  have hne : l.map fm ≠ [] := by simpa using h
  obtain ⟨h1, h2, h3⟩ := argminC_spec _ hne
  rw [List.length_map] at h1
  have hpick : l.getD (argminC (l.map fm)).1 0 = l[(argminC (l.map fm)).1] := by
    rw [List.getD_eq_getElem?_getD, List.getElem?_eq_getElem h1]; rfl
  refine ⟨by rw [hpick]; exact List.getElem_mem h1, ?_⟩
  intro t ht
  obtain ⟨k, hk, rfl⟩ := List.getElem_of_mem ht
  have := h3 k
  rw [← h2] at this
  simp only [List.getD_eq_getElem?_getD, List.getElem?_map, List.getElem?_eq_getElem h1,
    List.getElem?_eq_getElem hk, Option.map_some, Option.getD_some] at this
  rw [hpick]; exact this

theorem pick_spec (M : List (List Cost)) (pos : List (Option Nat)) (i : Nat)
    (h : block pos i ≠ []) :
    pick M pos i ∈ block pos i ∧
    ∀ t ∈ block pos i,
      leC (frameMin (M.getD (pick M pos i) [])) (frameMin (M.getD t [])) = true :=
  argmin_pick (fun t => frameMin (M.getD t [])) (block pos i) h

theorem forceAlignPos_ok {M : List (List Cost)} {labels : List Nat} {blank : Nat}
    {pos : List (Option Nat)} (h : forceAlignPos M labels blank = .ok pos) :
    ∃ p, statePath M labels blank = .ok p ∧ pos = p.map posOf :=
  map_eq_ok.1 h

theorem block_ne_nil {labels : List Nat} {p : List Nat} (h : Adm labels p) (i : Nat)
    (hi : i < labels.length) : block (p.map posOf) i ≠ [] := by
  obtain ⟨e, hp, he⟩ := h
  have hm := hp.visits (2 * i + 1) (by omega) (by omega)
  obtain ⟨t, ht⟩ := List.mem_iff_getElem?.mp hm
  intro hnil
  have := (mem_block_iff p t i).mpr ht
  rw [hnil] at this
  simp at this

theorem alignText_spec (M : List (List Cost)) (labels : List Nat) (blank : Nat)
    (ps : List (Option Nat)) (h : alignText M labels blank = .ok ps) :
    ∃ (qs : List Nat) (pos : List (Option Nat)),
      forceAlignPos M labels blank = .ok pos ∧
      ps = qs.map some ∧ qs.length = labels.length ∧ qs.Pairwise (· < ·) ∧
      ∀ i (hi : i < qs.length),
        pos[qs[i]]? = some (some i) ∧
        ∀ t, pos[t]? = some (some i) →
          leC (frameMin (M.getD qs[i] [])) (frameMin (M.getD t [])) = true := by
  rw [alignText_eq] at h
  obtain ⟨pos, hf, h⟩ := map_eq_ok.1 h
  · obtain ⟨p, hsp, rfl⟩ := forceAlignPos_ok hf
    have hadm := (statePath_ok_spec hsp).2.2.1
    have hsorted : p.Pairwise (· ≤ ·) := by
      obtain ⟨e, hp, _⟩ := hadm; exact hp.sorted
    refine ⟨(List.range labels.length).map (pick M (p.map posOf)), p.map posOf, hf, ?_,
      by simp, ?_, ?_⟩
    · rw [h, List.map_map]
      apply List.map_congr_left
      intro i hi
      -- `simp` reduces the `match` given that the block is not empty
      have hne := block_ne_nil hadm i (List.mem_range.1 hi)
      simp only [Function.comp_apply]
    · rw [List.pairwise_iff_getElem]
      intro i j hi hj hij
      simp only [List.length_map, List.length_range] at hi hj
      simp only [List.getElem_map, List.getElem_range]
      have h1 := (pick_spec M (p.map posOf) i (block_ne_nil hadm i hi)).1
      have h2 := (pick_spec M (p.map posOf) j (block_ne_nil hadm j hj)).1
      rw [mem_block_iff] at h1 h2
      exact sorted_index_lt hsorted h1 h2 (by omega)
    · intro i hi
      simp only [List.length_map, List.length_range] at hi
      simp only [List.getElem_map, List.getElem_range]
      obtain ⟨h1, h2⟩ := pick_spec M (p.map posOf) i (block_ne_nil hadm i hi)
      refine ⟨by rw [pos_getElem?_iff, ← mem_block_iff]; exact h1, ?_⟩
      intro t ht
      rw [pos_getElem?_iff, ← mem_block_iff] at ht
      exact h2 t ht



end FA

namespace C05

/-- number of adjacent equal label pairs (each needs a separating blank frame) -/
def repeats : List Nat → Nat
  | a :: b :: r => (if a = b then 1 else 0) + repeats (b :: r)
  | _ => 0

end C05

namespace FA
open Ctc C05

/-- 1 if the previous symbol is a non-blank equal to the head of the remaining collapse -/
def extra (blank : Nat) : Option Nat → List Nat → Nat
  | some x, y :: _ => if x ≠ blank ∧ x = y then 1 else 0
  | _, _ => 0

theorem extra_le_one (blank : Nat) (prev : Option Nat) (c : List Nat) : extra blank prev c ≤ 1 := by
  unfold extra
  split
  · split <;> omega
  · omega

theorem extra_blank (blank : Nat) (c : List Nat) : extra blank (some blank) c = 0 := by
  cases c <;> simp [extra]

theorem repeats_cons (blank s : Nat) (c : List Nat) (hs : s ≠ blank) :
    repeats (s :: c) = extra blank (some s) c + repeats c := by
  cases c with
  | nil => simp [repeats, extra]
  | cons y c => simp [repeats, extra, hs]

theorem extra_cons_ne (blank : Nat) (prev : Option Nat) (s : Nat) (c : List Nat)
    (h : prev ≠ some s) : extra blank prev (s :: c) = 0 := by
  cases prev with
  | none => simp [extra]
  | some x =>
    have : x ≠ s := fun hx => h (by rw [hx])
    simp [extra, this]

theorem collapseAux_length_repeats (blank : Nat) (prev : Option Nat) (π : List Nat) :
    (collapseAux blank prev π).length + repeats (collapseAux blank prev π) +
      extra blank prev (collapseAux blank prev π) ≤ π.length := by
  induction π generalizing prev with
  | nil => simp [collapseAux, repeats]; cases prev <;> simp [extra]
  | cons s rest ih =>
    rw [collapseAux_cons]
    by_cases hs : s = blank
    · subst hs
      simp only [true_or, if_true, List.nil_append, List.length_cons]
      have h1 := ih (some s)
      rw [extra_blank] at h1
      have h2 := extra_le_one s prev (collapseAux s (some s) rest)
      omega
    · by_cases hp : prev = some s
      · subst hp
        simp only [hs, false_or, if_true, List.nil_append, List.length_cons]
        have h1 := ih (some s)
        omega
      · simp only [hs, hp, or_self, if_false, List.singleton_append, List.length_cons]
        rw [repeats_cons blank s _ hs, extra_cons_ne blank prev s _ hp]
        have h1 := ih (some s)
        omega

theorem collapse_length_repeats (blank : Nat) (π : List Nat) :
    (collapse blank π).length + repeats (collapse blank π) ≤ π.length := by
  have := collapseAux_length_repeats blank none π
  unfold collapse
  omega

/-- shortest path collapsing to the labels -/
def canon (blank : Nat) : List Nat → List Nat
  | a :: b :: r => a :: ((if a = b then [blank] else []) ++ canon blank (b :: r))
  | [a] => [a]
  | [] => []

theorem canon_length (blank : Nat) (ls : List Nat) :
    (canon blank ls).length = ls.length + repeats ls := by
  induction ls with
  | nil => simp [canon, repeats]
  | cons a r ih =>
    cases r with
    | nil => simp [canon, repeats]
    | cons b r =>
      simp only [canon, repeats, List.length_cons, List.length_append, ih]
      split <;> simp <;> omega

theorem collapseAux_canon (blank : Nat) (ls : List Nat) (hb : blank ∉ ls) :
    ∀ prev : Option Nat, (∀ x, prev = some x → ls.head? ≠ some x) →
      collapseAux blank prev (canon blank ls) = ls := by
  induction ls with
  | nil => intro prev _; simp [canon, collapseAux]
  | cons a r ih =>
    intro prev hprev
    have ha : a ≠ blank := fun h => hb (by simp [h])
    have hpa : prev ≠ some a := fun h => hprev a h (by simp)
    have hbr : blank ∉ r := fun h => hb (List.mem_cons_of_mem _ h)
    cases r with
    | nil => simp [canon, collapseAux, ha, hpa]
    | cons b r =>
      simp only [canon, collapseAux_cons, ha, hpa, or_self, if_false, List.singleton_append]
      congr 1
      by_cases hab : a = b
      · subst hab
        simp only [if_true, List.singleton_append, collapseAux_cons, true_or, List.nil_append]
        rw [collapseAux_some_blank]
        exact ih hbr none (by simp)
      · simp only [hab, if_false, List.nil_append]
        apply ih hbr (some a)
        intro x hx
        simp only [Option.some.injEq] at hx
        subst hx
        simp [Ne.symm hab]

theorem collapse_replicate_blank (blank : Nat) (k : Nat) (π : List Nat) :
    collapse blank (List.replicate k blank ++ π) = collapse blank π := by
  induction k with
  | zero => simp
  | succ k ih =>
    rw [List.replicate_succ, List.cons_append]
    unfold collapse at ih ⊢
    rw [collapseAux_cons, collapseAux_some_blank]
    simpa using ih

theorem pathCost_finite (M : List (List Cost)) :
    ∀ π : List Nat, π.length = M.length → (∀ row ∈ M, ∀ c ∈ row, c ≠ none) →
      (∀ row ∈ M, ∀ s ∈ π, s < row.length) → (pathCost M π).isSome = true := by
  induction M with
  | nil => intro π hl _ _; cases π <;> simp [pathCost] at hl ⊢
  | cons row M ih =>
    intro π hl hfin hrng
    cases π with
    | nil => simp at hl
    | cons s π =>
      simp only [pathCost, addC_isSome, Bool.and_eq_true]
      constructor
      · have hs : s < row.length := hrng row (by simp) s (by simp)
        have hc := hfin row (by simp) row[s] (List.getElem_mem hs)
        rw [List.getD_eq_getElem?_getD, List.getElem?_eq_getElem hs, Option.getD_some]
        cases h : row[s] with
        | none => exact absurd h hc
        | some v => rfl
      · apply ih π (by simpa using hl)
          (fun r hr => hfin r (List.mem_cons_of_mem _ hr))
        intro r hr x hx
        exact hrng r (List.mem_cons_of_mem _ hr) x (List.mem_cons_of_mem _ hx)

/-- A frame path of length `T` collapsing to the labels exists iff `T` has room for the labels and one separating blank
per repeat; the shortest one is `canon`, and leading blanks pad it. -/
theorem exists_collapse_iff {blank : Nat} {labels : List Nat} (hb : blank ∉ labels) (T : Nat) :
    (∃ π : List Nat, π.length = T ∧ collapse blank π = labels) ↔ labels.length + repeats labels ≤ T := by
  constructor
  · rintro ⟨π, rfl, rfl⟩
    exact collapse_length_repeats blank π
  · intro h
    refine ⟨List.replicate (T - (labels.length + repeats labels)) blank ++ canon blank labels, ?_, ?_⟩
    · rw [List.length_append, List.length_replicate, canon_length]; omega
    · rw [collapse_replicate_blank]
      exact collapseAux_canon blank labels hb none (by simp)

theorem forceAlign_fails_structural {M : List (List Cost)} {labels : List Nat} {blank : Nat}
    (hb : blank ∉ labels) (hne : labels ≠ []) (hM : M ≠ [])
    (hwf : ∀ row ∈ M, blank < row.length ∧ ∀ l ∈ labels, l < row.length)
    (hfin : ∀ row ∈ M, ∀ c ∈ row, c ≠ none) :
    forceAlign M labels blank = .error .unalignable ↔ M.length < labels.length + repeats labels := by
  rw [(forceAlign_fails hb hne hM hwf).1, ← Nat.not_le, ← exists_collapse_iff hb]
  -- on a finite matrix every path over the blank and the labels has finite cost
  refine not_congr ⟨fun ⟨π, hl, hc, _⟩ => ⟨π, hl, hc⟩, fun ⟨π, hl, hc⟩ =>
    ⟨π, hl, hc, pathCost_finite M π hl hfin fun row hrow s hs => ?_⟩⟩
  obtain ⟨h1, h2⟩ := hwf row hrow
  rcases mem_collapseAux_of_mem (blank := blank) (prev := none) hs with rfl | h | h
  · exact h1
  · cases h
  · exact h2 s (hc ▸ h)

end FA
