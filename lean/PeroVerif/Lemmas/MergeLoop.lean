/-
Lemmas for the merge loop model (C11): what the grouping pass of `merge_lines` maintains, the count of lines it
returns, and the fuel of the `while True` loop.
-/
import PeroVerif.Model.MergeLoop
import PeroVerif.Lemmas.ListAux
import Batteries.Data.List.Perm

namespace MergeLoop

/-- `if x not in merged_lines: lines_to_merge_i.append(x); merged_lines.append(x)` -/
def note (st : GState) (x : Nat) : GState := if x ∈ st.2 then st else (st.1 ++ [x], st.2 ++ [x])

theorem innerStep_eq (c : Nat → Nat → Bool) (i j : Nat) (st : GState) :
    innerStep c i st j = if i ≠ j ∧ c i j = true then note (note st i) j else st := rfl

/-- `x` is one end of a compatible pair of distinct lines -/
def Paired (c : Nat → Nat → Bool) (n x : Nat) : Prop :=
  ∃ i, i < n ∧ ∃ j, j < n ∧ i ≠ j ∧ c i j = true ∧ (x = i ∨ x = j)

theorem Paired.lt {c : Nat → Nat → Bool} {n x : Nat} : Paired c n x → x < n
  | ⟨_, hi, _, hj, _, _, h⟩ => h.elim (· ▸ hi) (· ▸ hj)

/-- what the grouping pass maintains for `(group, merged)`: `merged` is `pre` followed by the group, repeats
nothing and holds only paired lines -/
def GInv (c : Nat → Nat → Bool) (n : Nat) (pre : List Nat) (st : GState) : Prop :=
  st.2 = pre ++ st.1 ∧ st.2.Nodup ∧ ∀ x ∈ st.2, Paired c n x

theorem note_inv {c : Nat → Nat → Bool} {n : Nat} {pre : List Nat} {st : GState} {x : Nat}
    (h : GInv c n pre st) (hx : Paired c n x) : GInv c n pre (note st x) := by
  unfold note
  split
  · exact h
  · rename_i hm
    obtain ⟨h1, h2, h3⟩ := h
    refine ⟨by simp [h1], by simpa [List.nodup_append, h2] using fun a ha (e : a = x) => hm (e ▸ ha), ?_⟩
    intro y hy
    rcases List.mem_append.mp hy with hy | hy
    · exact h3 y hy
    · rwa [List.mem_singleton.mp hy]

theorem outerStep_inv {c : Nat → Nat → Bool} {n i : Nat} {merged : List Nat} (hi : i < n)
    (h : GInv c n merged ([], merged)) : GInv c n merged (outerStep c n merged i) := by
  refine ListAux.foldl_inv (fun _ => GInv c n merged) _ _ _ h fun _ j st hj hst => ?_
  rw [innerStep_eq]
  split
  · rename_i hc
    have hj := List.mem_range.mp hj
    exact note_inv (note_inv hst ⟨i, hi, j, hj, hc.1, hc.2, .inl rfl⟩) ⟨i, hi, j, hj, hc.1, hc.2, .inr rfl⟩
  · exact hst

theorem grouping_inv (c : Nat → Nat → Bool) (n : Nat) :
    (grouping c n).1.flatten = (grouping c n).2 ∧ (grouping c n).2.Nodup ∧
      (∀ x ∈ (grouping c n).2, Paired c n x) ∧ (grouping c n).1.length = n := by
  have := ListAux.foldl_inv (fun (is : List Nat) (acc : List (List Nat) × List Nat) =>
      acc.1.flatten = acc.2 ∧ acc.2.Nodup ∧ (∀ x ∈ acc.2, Paired c n x) ∧ acc.1.length = is.length)
    (fun (acc : List (List Nat) × List Nat) i => (acc.1 ++ [(outerStep c n acc.2 i).1], (outerStep c n acc.2 i).2))
    (List.range n) ([], []) ⟨rfl, List.nodup_nil, by simp, rfl⟩ ?_
  · simpa [grouping] using this
  · intro is i acc hi ⟨h1, h2, h3, h4⟩
    obtain ⟨e, nd, hp⟩ := outerStep_inv (List.mem_range.mp hi) (show GInv c n acc.2 ([], acc.2) from ⟨by simp, h2, h3⟩)
    exact ⟨by simp [h1, e], nd, hp, by simp [h4]⟩

theorem nonempty_groups_le (gs : List (List Nat)) :
    (gs.filter fun grp => !grp.isEmpty).length ≤ gs.flatten.length := by
  induction gs with
  | nil => simp
  | cons g gs ih =>
    cases g with
    | nil => simpa using ih
    | cons a g => simp at ih ⊢; omega

theorem untouched_add_merged_le (n : Nat) (m : List Nat) (hnd : m.Nodup) (hlt : ∀ i ∈ m, i < n) :
    ((List.range n).filter fun i => !m.contains i).length + m.length ≤ n := by
  have hnd' : (((List.range n).filter fun i => !m.contains i) ++ m).Nodup := by
    rw [List.nodup_append]
    refine ⟨List.nodup_range.filter _, hnd, ?_⟩
    intro a ha b hb hab
    subst hab
    simp at ha
    exact ha.2 hb
  have hsub : (((List.range n).filter fun i => !m.contains i) ++ m) ⊆ List.range n := by
    intro a ha
    rw [List.mem_append] at ha
    rcases ha with ha | ha
    · exact (List.mem_filter.mp ha).1
    · exact List.mem_range.mpr (hlt a ha)
  have := (List.subperm_of_subset hnd' hsub).length_le
  simpa using this

theorem mergedCount_le (c : Nat → Nat → Bool) (n : Nat) : mergedCount c n ≤ n := by
  obtain ⟨h1, h2, h3, -⟩ := grouping_inv c n
  unfold mergedCount
  simp only
  have a := nonempty_groups_le (grouping c n).1
  rw [h1] at a
  have b := untouched_add_merged_le n (grouping c n).2 h2 fun i hi => (h3 i hi).lt
  omega

theorem mergeLines_length_le (ls : List Ln) : (mergeLines ls).length ≤ ls.length := by
  have := mergedCount_le (fun i j => compat (ls.getD i default) (ls.getD j default)) ls.length
  unfold mergedCount at this
  unfold mergeLines
  simpa using this

theorem loop_succ {α : Type} (step : List α → List α) (fuel : Nat) (ls : List α) :
    loop step (fuel + 1) ls = if (step ls).length = ls.length then some (step ls, 1)
      else (loop step fuel (step ls)).map fun r => (r.1, r.2 + 1) := rfl

theorem loop_mono {α : Type} {step : List α → List α} {fuel : Nat} {ls : List α} {x : List α × Nat}
    (h : loop step fuel ls = some x) (extra : Nat) : loop step (fuel + extra) ls = some x := by
  induction fuel generalizing ls x with
  | zero => cases h
  | succ fuel ih =>
    rw [Nat.add_right_comm, loop_succ]
    rw [loop_succ] at h
    by_cases he : (step ls).length = ls.length
    · rwa [if_pos he] at h ⊢
    · rw [if_neg he] at h ⊢
      obtain ⟨y, hy, rfl⟩ := Option.map_eq_some_iff.mp h
      rw [ih hy]; rfl

theorem loop_total {α : Type} (step : List α → List α) (hstep : ∀ l, (step l).length ≤ l.length) :
    ∀ (fuel : Nat) (ls : List α), ls.length < fuel →
      ∃ r k, loop step fuel ls = some (r, k) ∧ 1 ≤ k ∧ k ≤ ls.length + 1 ∧ r.length ≤ ls.length := by
  intro fuel
  induction fuel with
  | zero => intro ls h; omega
  | succ fuel ih =>
    intro ls h
    rw [loop_succ]
    split
    · exact ⟨step ls, 1, rfl, Nat.le_refl 1, Nat.le_add_left 1 _, hstep ls⟩
    · rename_i hne
      have hlt : (step ls).length < ls.length := Nat.lt_of_le_of_ne (hstep ls) hne
      obtain ⟨r, k, hl, -, h2, h3⟩ := ih (step ls) (Nat.lt_of_lt_of_le hlt (Nat.le_of_lt_succ h))
      exact ⟨r, k + 1, by rw [hl]; rfl, Nat.le_add_left 1 k, Nat.succ_le_succ (Nat.le_trans h2 hlt),
        Nat.le_trans h3 (hstep ls)⟩

theorem loop_terminates {α : Type} (step : List α → List α) (hstep : ∀ l, (step l).length ≤ l.length)
    (ls : List α) :
    ∃ r k, loop step (ls.length + 1) ls = some (r, k) ∧ 1 ≤ k ∧ k ≤ ls.length + 1 ∧ r.length ≤ ls.length ∧
      ∀ extra, loop step (ls.length + 1 + extra) ls = some (r, k) :=
  let ⟨r, k, h, h1, h2, h3⟩ := loop_total step hstep _ ls (Nat.lt_succ_self _)
  ⟨r, k, h, h1, h2, h3, loop_mono h⟩

end MergeLoop
