/- Lemmas for line assignment (C11): the id scheme is injective, `pickLongest` finds the first maximum, and `assign`
in closed form (`assign_eq`). -/
import Mathlib.Data.List.Nodup
import PeroVerif.Model.Assign
import PeroVerif.Lemmas.Decimal
import PeroVerif.Lemmas.ListAux

namespace Asg
open Py

/-- If two strings end in a `P`-block preceded by a non-`P` character, the decompositions agree. -/
theorem split_last (P : Nat → Prop) (a a' : Str) (x x' : Nat) (d d' : Str)
    (hd : ∀ c ∈ d, P c) (hd' : ∀ c ∈ d', P c) (hx : ¬ P x) (hx' : ¬ P x')
    (h : a ++ x :: d = a' ++ x' :: d') : a = a' ∧ x = x' ∧ d = d' := by
  induction a generalizing a' with
  | nil =>
    cases a' with
    | nil => simp at h; simp [h]
    | cons y a'' =>
      simp only [List.nil_append, List.cons_append, List.cons.injEq] at h
      exfalso; apply hx'; apply hd; rw [h.2]; simp
  | cons y a ih =>
    cases a' with
    | nil =>
      simp only [List.nil_append, List.cons_append, List.cons.injEq] at h
      exfalso; apply hx; apply hd'; rw [← h.2]; simp
    | cons y' a'' =>
      simp only [List.cons_append, List.cons.injEq] at h
      obtain ⟨rfl, h⟩ := h
      obtain ⟨rfl, h2⟩ := ih a'' h
      exact ⟨rfl, h2⟩

theorem pad3_digits (n : Nat) : ∀ c ∈ pad3 n, isDigit c = true :=
  padZeros_digits 3 _ (showNat_digits n)

theorem pad3_val (n : Nat) : val (pad3 n) = n := by
  rw [pad3, padZeros_val, showNat_val]

theorem pad3_injective {n m : Nat} (h : pad3 n = pad3 m) : n = m := by
  have := congrArg val h
  rwa [pad3_val, pad3_val] at this

theorem showNat_injective {n m : Nat} (h : showNat n = showNat m) : n = m := by
  have := congrArg val h
  rwa [showNat_val, showNat_val] at this

theorem lineId_eq (r : Str) (i : Nat) : lineId r i = (r ++ [45]) ++ 108 :: pad3 (i + 1) := by
  simp [lineId]

theorem lineId_inj (r r' : Str) (i i' : Nat) (h : lineId r i = lineId r' i') : r = r' ∧ i = i' := by
  rw [lineId_eq, lineId_eq] at h
  obtain ⟨h1, -, h3⟩ := split_last (fun c => isDigit c = true) _ _ _ _ _ _
    (pad3_digits _) (pad3_digits _) (by decide) (by decide) h
  have := pad3_injective h3
  exact ⟨List.append_cancel_right h1, by omega⟩

theorem passLineId_zero (rid : Str) (i : Nat) :
    passLineId rid i 0 = lineId rid i := by
  simp [passLineId]

theorem passLineId_pos (h : Gen.Layout.rotSuffix = true) (rid : Str) (i rot : Nat) (hr : 0 < rot) :
    passLineId rid i rot = lineId rid i ++ 95 :: showNat rot := by
  simp [passLineId, h, hr]

theorem passLineId_inj (h : Gen.Layout.rotSuffix = true) (rid : Str) (i i' rot rot' : Nat)
    (he : passLineId rid i rot = passLineId rid i' rot') : i = i' ∧ rot = rot' := by
  rcases Nat.eq_zero_or_pos rot with rfl | hr <;> rcases Nat.eq_zero_or_pos rot' with rfl | hr'
  · rw [passLineId_zero, passLineId_zero] at he
    exact ⟨(lineId_inj _ _ _ _ he).2, rfl⟩
  · rw [passLineId_zero, passLineId_pos h _ _ _ hr', lineId_eq] at he
    have := split_last (fun c => isDigit c = true) _ _ _ _ _ _
      (pad3_digits _) (showNat_digits _) (by decide) (by decide) he
    exact absurd this.2.1 (by decide)
  · have he := he.symm
    rw [passLineId_zero, passLineId_pos h _ _ _ hr, lineId_eq] at he
    have := split_last (fun c => isDigit c = true) _ _ _ _ _ _
      (pad3_digits _) (showNat_digits _) (by decide) (by decide) he
    exact absurd this.2.1 (by decide)
  · rw [passLineId_pos h _ _ _ hr, passLineId_pos h _ _ _ hr'] at he
    obtain ⟨h1, -, h3⟩ := split_last (fun c => isDigit c = true) _ _ _ _ _ _
      (showNat_digits _) (showNat_digits _) (by decide) (by decide) he
    exact ⟨(lineId_inj _ _ _ _ h1).2, showNat_injective h3⟩

theorem passIds_nodup (h : Gen.Layout.rotSuffix = true) (rid : Str) (rots : List Nat) (placed : Nat → List Nat)
    (hr : rots.Nodup) (hp : ∀ rot ∈ rots, (placed rot).Nodup) :
    (passIds rid rots placed).Nodup := by
  unfold passIds
  rw [List.nodup_flatMap]
  refine ⟨fun rot hrot => ?_, ?_⟩
  · refine (hp rot hrot).map_on ?_
    intro a _ b _ hab
    exact (passLineId_inj h _ _ _ _ _ hab).1
  · refine hr.imp ?_
    intro a b hab
    simp only [Function.onFun]
    rw [List.disjoint_left]
    intro s hs hs'
    simp only [List.mem_map] at hs hs'
    obtain ⟨i, -, rfl⟩ := hs
    obtain ⟨i', -, he⟩ := hs'
    exact hab (passLineId_inj h _ _ _ _ _ he).2.symm

/-- `(bestIdx, bestVal, nextIdx)` after the prefix `l`: `bestVal = l[bestIdx]` is a maximum of `l` and
everything before `bestIdx` is smaller -/
def PlInv (l : List Nat) (st : Nat × Nat × Nat) : Prop :=
  st.2.2 = l.length ∧ l[st.1]? = some st.2.1 ∧ (∀ y ∈ l, y ≤ st.2.1) ∧ ∀ y ∈ l.take st.1, y < st.2.1

theorem pickLongest_inv (x : Nat) (xs : List Nat) :
    PlInv (x :: xs) (xs.foldl (fun (st : Nat × Nat × Nat) y =>
      if st.2.1 < y then (st.2.2, y, st.2.2 + 1) else (st.1, st.2.1, st.2.2 + 1)) (0, x, 1)) := by
  refine ListAux.foldl_inv (fun pre => PlInv (x :: pre)) _ xs _ ⟨rfl, rfl, by simp, by simp⟩ ?_
  rintro pre y ⟨b, v, n⟩ - ⟨hn, hb, hmax, hfirst⟩
  dsimp only at hn hb hmax hfirst ⊢
  subst hn
  have hlt := (List.getElem?_eq_some_iff.mp hb).1
  rw [← List.cons_append]
  split
  · rename_i hvy
    refine ⟨by simp, by simp, ?_, ?_⟩
    · intro z hz
      rcases List.mem_append.mp hz with hz | hz
      · exact Nat.le_of_lt (Nat.lt_of_le_of_lt (hmax z hz) hvy)
      · exact Nat.le_of_eq (List.mem_singleton.mp hz)
    · intro z hz
      rw [List.take_left'  rfl] at hz
      exact Nat.lt_of_le_of_lt (hmax z hz) hvy
  · rename_i hvy
    refine ⟨by simp, by rw [List.getElem?_append_left hlt]; exact hb, ?_, ?_⟩
    · intro z hz
      rcases List.mem_append.mp hz with hz | hz
      · exact hmax z hz
      · exact List.mem_singleton.mp hz ▸ Nat.le_of_not_lt hvy
    · rwa [List.take_append_of_le_length (Nat.le_of_lt hlt)]

variable {G : Type}

/-- what the pair (line `li`, region `ri` with id `rid`, bbox `bb`) contributes -/
def newLine (mask : Nat → Nat → Option G) (lineBoxes : List BBox) (li ri : Nat) (rid : Str) (bb : BBox) :
    Option (Placed G) :=
  match lineBoxes[li]? with
  | some lb => if candidate lb bb then (mask li ri).map fun g => ⟨lineId rid li, g, li⟩ else none
  | none => none

/-- `S'` is `S` with `f ri id bbox` appended to the lines of every slot `ri` -/
def Ext (f : Nat → Str → BBox → List (Placed G)) (S S' : List (Region G)) : Prop :=
  S'.length = S.length ∧ ∀ ri r, S[ri]? = some r →
    ∃ r', S'[ri]? = some r' ∧ r'.id = r.id ∧ r'.bbox = r.bbox ∧ r'.lines = r.lines ++ f ri r.id r.bbox

theorem Ext.refl (S : List (Region G)) : Ext (fun _ _ _ => []) S S :=
  ⟨rfl, fun ri r h => ⟨r, h, rfl, rfl, by simp⟩⟩

theorem Ext.trans {f g : Nat → Str → BBox → List (Placed G)} {S S' S'' : List (Region G)}
    (h1 : Ext f S S') (h2 : Ext g S' S'') : Ext (fun ri id bb => f ri id bb ++ g ri id bb) S S'' := by
  refine ⟨h2.1.trans h1.1, fun ri r h => ?_⟩
  obtain ⟨r', hr', hid', hbb', hl'⟩ := h1.2 ri r h
  obtain ⟨r'', hr'', hid'', hbb'', hl''⟩ := h2.2 ri r' hr'
  refine ⟨r'', hr'', hid''.trans hid', hbb''.trans hbb', ?_⟩
  rw [hl'', hl', hid', hbb', List.append_assoc]

theorem Ext.congr {f g : Nat → Str → BBox → List (Placed G)} {S S' : List (Region G)}
    (h : Ext f S S') (hfg : ∀ ri, ri < S.length → ∀ id bb, f ri id bb = g ri id bb) : Ext g S S' := by
  refine ⟨h.1, fun ri r hr => ?_⟩
  obtain ⟨r', hr', hid', hbb', hl'⟩ := h.2 ri r hr
  have hlt : ri < S.length := (List.getElem?_eq_some_iff.mp hr).1
  exact ⟨r', hr', hid', hbb', by rw [hl', hfg ri hlt]⟩

theorem Ext.eq {f : Nat → Str → BBox → List (Placed G)} {S S' : List (Region G)} (h : Ext f S S') :
    S' = S.mapIdx fun ri r => { r with lines := r.lines ++ f ri r.id r.bbox } := by
  refine (List.mapIdx_eq_iff.mpr fun i => ?_).symm
  cases hr : S[i]? with
  | none => exact List.getElem?_eq_none_iff.mpr (h.1 ▸ List.getElem?_eq_none_iff.mp hr)
  | some r =>
    obtain ⟨⟨id, bb, ls⟩, h1, h2, h3, h4⟩ := h.2 i r hr
    cases h2; cases h3; cases h4
    exact h1

theorem placeOne_ext (mask : Nat → Nat → Option G) (lineBoxes : List BBox) (li : Nat) (S : List (Region G)) (ri0 : Nat) :
    Ext (fun ri id bb => if ri = ri0 then (newLine mask lineBoxes li ri id bb).toList else []) S
      (placeOne mask lineBoxes li S ri0) := by
  unfold placeOne
  split
  · rename_i r lb hr hlb
    split
    · rename_i hc
      split
      · rename_i g hg
        refine ⟨by simp, fun ri r1 h1 => ?_⟩
        by_cases hri : ri = ri0
        · subst hri
          have : r1 = r := by rw [hr] at h1; exact (Option.some.inj h1).symm
          subst this
          have hlt : ri < S.length := (List.getElem?_eq_some_iff.mp hr).1
          refine ⟨{ r1 with lines := r1.lines ++ [⟨lineId r1.id li, g, li⟩] },
            by rw [List.getElem?_set_self hlt], rfl, rfl, ?_⟩
          simp [newLine, hlb, hc, hg]
        · refine ⟨r1, ?_, rfl, rfl, by simp [hri]⟩
          rw [List.getElem?_set_ne (Ne.symm hri)]; exact h1
      · rename_i hg
        refine ⟨rfl, fun ri r1 h1 => ⟨r1, h1, rfl, rfl, ?_⟩⟩
        by_cases hri : ri = ri0
        · subst hri
          have : r1 = r := by rw [hr] at h1; exact (Option.some.inj h1).symm
          subst this
          simp [newLine, hlb, hc, hg]
        · simp [hri]
    · rename_i hc
      refine ⟨rfl, fun ri r1 h1 => ⟨r1, h1, rfl, rfl, ?_⟩⟩
      by_cases hri : ri = ri0
      · subst hri
        have : r1 = r := by rw [hr] at h1; exact (Option.some.inj h1).symm
        subst this
        simp [newLine, hlb, hc]
      · simp [hri]
  · rename_i hno
    refine ⟨rfl, fun ri r1 h1 => ⟨r1, h1, rfl, rfl, ?_⟩⟩
    by_cases hri : ri = ri0
    · subst hri
      cases hlb : lineBoxes[li]? with
      | none => simp [newLine, hlb]
      | some lb => exact absurd hlb (hno r1 lb h1)
    · simp [hri]

theorem inner_ext (mask : Nat → Nat → Option G) (lineBoxes : List BBox) (li : Nat) (ris : List Nat)
    (hnd : ris.Nodup) (S : List (Region G)) :
    Ext (fun ri id bb => if ri ∈ ris then (newLine mask lineBoxes li ri id bb).toList else []) S
      (ris.foldl (fun acc' ri => placeOne mask lineBoxes li acc' ri) S) := by
  induction ris generalizing S with
  | nil => simpa using Ext.refl S
  | cons ri0 ris ih =>
    rw [List.nodup_cons] at hnd
    rw [List.foldl_cons]
    refine ((placeOne_ext mask lineBoxes li S ri0).trans (ih hnd.2 _)).congr ?_
    intro ri _ id bb
    by_cases h0 : ri = ri0
    · subst h0; simp [hnd.1]
    · simp [h0]

theorem inner_range_ext (mask : Nat → Nat → Option G) (lineBoxes : List BBox) (li : Nat) (S : List (Region G)) :
    Ext (fun ri id bb => (newLine mask lineBoxes li ri id bb).toList) S
      ((List.range S.length).foldl (fun acc' ri => placeOne mask lineBoxes li acc' ri) S) := by
  refine (inner_ext mask lineBoxes li _ List.nodup_range S).congr ?_
  intro ri hri id bb
  simp [hri]

theorem outer_ext (mask : Nat → Nat → Option G) (lineBoxes : List BBox) (regs : List (Region G)) (k : Nat) :
    Ext (fun ri id bb => (List.range k).filterMap fun li => newLine mask lineBoxes li ri id bb) regs
      ((List.range k).foldl
        (fun acc li => (List.range regs.length).foldl (fun acc' ri => placeOne mask lineBoxes li acc' ri) acc) regs) := by
  induction k with
  | zero => simpa using Ext.refl regs
  | succ k ih =>
    rw [List.range_succ, List.foldl_append, List.foldl_cons, List.foldl_nil]
    have hlen := ih.1
    have h2 := inner_range_ext mask lineBoxes k
      ((List.range k).foldl
        (fun acc li => (List.range regs.length).foldl (fun acc' ri => placeOne mask lineBoxes li acc' ri) acc) regs)
    rw [hlen] at h2
    refine (ih.trans h2).congr ?_
    intro ri _ id bb
    rw [List.filterMap_append]
    congr 1

theorem assign_ext (mask : Nat → Nat → Option G) (lineBoxes : List BBox) (regs : List (Region G)) :
    Ext (fun ri id bb => (List.range lineBoxes.length).filterMap fun li => newLine mask lineBoxes li ri id bb) regs
      (assign mask lineBoxes regs) :=
  outer_ext mask lineBoxes regs lineBoxes.length

/-- `assign_lines_to_regions`, closed form: every region keeps id and bounding box and gains, in detected-line
order, what shapely returns for the candidate lines. -/
theorem assign_eq (mask : Nat → Nat → Option G) (lineBoxes : List BBox) (regs : List (Region G)) :
    assign mask lineBoxes regs = regs.mapIdx fun ri r => { r with
      lines := (r.lines ++ (List.range lineBoxes.length).filterMap fun li => newLine mask lineBoxes li ri r.id r.bbox) } :=
  (assign_ext mask lineBoxes regs).eq

theorem newLine_filterMap (mask : Nat → Nat → Option G) (lineBoxes : List BBox) (ri : Nat) (rid : Str) (bb : BBox) :
    ((List.range lineBoxes.length).filterMap fun li => newLine mask lineBoxes li ri rid bb) =
    (List.range lineBoxes.length).filterMap fun li =>
      if candidate (lineBoxes.getD li ⟨0, 0, 0, 0⟩) bb then (mask li ri).map fun g => ⟨lineId rid li, g, li⟩ else none := by
  apply List.filterMap_congr
  intro li hli
  rw [List.mem_range] at hli
  simp [newLine, List.getElem?_eq_getElem hli, List.getD_eq_getElem?_getD]

theorem newLine_eq_some {mask : Nat → Nat → Option G} {lineBoxes : List BBox} {li ri : Nat} {rid : Str} {bb : BBox}
    {p : Placed G} (h : newLine mask lineBoxes li ri rid bb = some p) :
    ∃ g, mask li ri = some g ∧ p = ⟨lineId rid li, g, li⟩ := by
  unfold newLine at h
  split at h
  · split at h
    · obtain ⟨g, hg, rfl⟩ := Option.map_eq_some_iff.mp h
      exact ⟨g, hg, rfl⟩
    · cases h
  · cases h

theorem newLine_id {mask : Nat → Nat → Option G} {lineBoxes : List BBox} {li ri : Nat} {rid : Str} {bb : BBox}
    {p : Placed G} (h : newLine mask lineBoxes li ri rid bb = some p) : p.id = lineId rid li := by
  obtain ⟨g, -, rfl⟩ := newLine_eq_some h
  rfl

end Asg
