/-
Helper lemmas for C07: the sorted (index, width) pairs behind `order`, and the chunking loop
`batchesAux`, whose batches are all described by `mem_batchesAux`.
-/
import PeroVerif.Model.Batching

namespace Bat

/-- the sorted list of (index, width) pairs underlying `order` -/
def sortedPairs (ws : List Nat) : List (Nat × Nat) :=
  ((List.range ws.length).zip ws).mergeSort (fun a b => decide (a.2 ≥ b.2))

theorem order_eq (ws : List Nat) : order ws = (sortedPairs ws).map (·.1) := rfl

theorem sortedPairs_perm (ws : List Nat) :
    (sortedPairs ws).Perm ((List.range ws.length).zip ws) :=
  List.mergeSort_perm _ _

theorem map_fst_zip_range (ws : List Nat) :
    ((List.range ws.length).zip ws).map (·.1) = List.range ws.length := by
  rw [← List.unzip_fst, List.unzip_zip]
  simp

theorem mem_zip_range_width (ws : List Nat) (p : Nat × Nat)
    (hp : p ∈ (List.range ws.length).zip ws) : widthOf ws p.1 = p.2 := by
  obtain ⟨i, h⟩ := List.mem_iff_getElem?.mp hp
  obtain ⟨h1, h2⟩ := List.getElem?_zip_eq_some.mp h
  obtain ⟨_, h1⟩ := List.getElem?_eq_some_iff.mp h1
  rw [widthOf, List.getD_eq_getElem?_getD, ← h1, List.getElem_range, h2]
  rfl

theorem sortedPairs_pairwise (ws : List Nat) :
    (sortedPairs ws).Pairwise (fun a b => a.2 ≥ b.2) := by
  have h := List.pairwise_mergeSort (le := fun (a b : Nat × Nat) => decide (a.2 ≥ b.2))
    (by intro a b c h1 h2; simp only [decide_eq_true_eq] at *; omega)
    (by intro a b; simp only [Bool.or_eq_true, decide_eq_true_eq]; omega)
    ((List.range ws.length).zip ws)
  exact h.imp (by intro a b h; simpa using h)

theorem le_ceil32 (w : Nat) : w ≤ ceil32 w := by
  unfold ceil32; omega

theorem ceil32_mono {a b : Nat} (h : a ≤ b) : ceil32 a ≤ ceil32 b :=
  Nat.mul_le_mul_right _ (Nat.div_le_div_right (Nat.add_le_add_right h _))

/-- Every batch is the first `max 1 (budget / mw)` ids of some tail `i :: rest` of the queue, at the
width `mw` of that tail's head. -/
theorem mem_batchesAux (ws : List Nat) (budget pad : Nat) :
    ∀ (fuel : Nat) (ids : List Nat), ∀ b ∈ batchesAux ws budget pad fuel ids,
      ∃ i rest, (i :: rest) <:+ ids ∧
        b = ((i :: rest).take (max 1 (budget / ceil32 (widthOf ws i))),
             min (ceil32 (widthOf ws i) + 2 * pad) budget)
  | 0, _, b, hb => by cases hb
  | _ + 1, [], b, hb => by cases hb
  | fuel + 1, i :: rest, b, hb => by
    rcases List.mem_cons.mp hb with rfl | hb
    · exact ⟨i, rest, List.suffix_refl _, rfl⟩
    · obtain ⟨j, r, hs, rfl⟩ := mem_batchesAux ws budget pad fuel _ b hb
      exact ⟨j, r, hs.trans (List.drop_suffix _ _), rfl⟩

/-- In a queue of non-increasing width the head of a tail is the widest line of that tail. -/
theorem width_le_head {ws ids : List Nat} (hp : ids.Pairwise (fun a b => widthOf ws a ≥ widthOf ws b))
    {i j n : Nat} {rest : List Nat} (hs : (i :: rest) <:+ ids) (hj : j ∈ (i :: rest).take n) :
    widthOf ws j ≤ widthOf ws i := by
  rcases List.mem_cons.mp (List.mem_of_mem_take hj) with rfl | hjr
  · exact Nat.le_refl _
  · exact (List.pairwise_cons.mp (hp.sublist hs.sublist)).1 j hjr

theorem flatMap_batchesAux (ws : List Nat) (budget pad : Nat) :
    ∀ (fuel : Nat) (ids : List Nat), ids.length ≤ fuel →
      (batchesAux ws budget pad fuel ids).flatMap (·.1) = ids
  | _, [], _ => by cases ‹Nat› <;> rfl
  | fuel + 1, i :: rest, hl => by
    rw [batchesAux, List.flatMap_cons, flatMap_batchesAux ws budget pad fuel]
    · exact List.take_append_drop _ _
    · rw [List.length_drop]
      exact Nat.sub_le_of_le_add (Nat.le_trans hl (Nat.add_le_add_left (Nat.le_max_left ..) fuel))

/-- pixel budget of the chunking loop: a batch of more than one line fits the budget at the padded
width of EACH of its lines (hence of its widest) -/
theorem batchesAux_budget (ws : List Nat) (budget pad : Nat) :
    ∀ (fuel : Nat) (ids : List Nat),
      ids.Pairwise (fun a b => widthOf ws a ≥ widthOf ws b) →
      ∀ b ∈ batchesAux ws budget pad fuel ids,
        b.1.length = 1 ∨ ∀ i ∈ b.1, b.1.length * ceil32 (widthOf ws i) ≤ budget := by
  intro fuel ids hp b hb
  obtain ⟨i, rest, hs, rfl⟩ := mem_batchesAux ws budget pad fuel ids b hb
  dsimp only
  generalize hmw : ceil32 (widthOf ws i) = mw
  rcases Nat.lt_or_ge (budget / mw) 2 with hq | hq
  · left
    rw [Nat.max_eq_left (Nat.le_of_lt_succ hq), List.take_one]; rfl
  · -- at least two lines: `length ≤ budget / mw`, and every line is at most as wide as the head
    right
    intro j hj
    have hm : ceil32 (widthOf ws j) ≤ mw := hmw ▸ ceil32_mono (width_le_head hp hs hj)
    have hpos : 0 < mw := Nat.pos_of_ne_zero fun h0 => by
      rw [h0, Nat.div_zero] at hq; exact absurd hq (by decide)
    have hlen : ((i :: rest).take (max 1 (budget / mw))).length ≤ budget / mw := by
      rw [List.length_take, Nat.max_eq_right (Nat.le_of_succ_le hq)]; exact Nat.min_le_left ..
    exact Nat.le_trans (Nat.mul_le_mul_left _ hm) ((Nat.le_div_iff_mul_le hpos).1 hlen)
end Bat
