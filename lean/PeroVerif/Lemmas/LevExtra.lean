/-
Helper lemmas for the C13 corollaries that need more than the minimum property: the length bounds (`len_le_cost`, `zipAl`),
the line-end classification (`ending_total`) and the composition of alignments (triangle inequality).
-/
import PeroVerif.Spec.Lev
import PeroVerif.Lemmas.Lev
namespace Lev
variable {α : Type} [DecidableEq α]

theorem len_le_cost (al : Alignment α) :
    (srcOf al).length ≤ (tgtOf al).length + cost unit al ∧
    (tgtOf al).length ≤ (srcOf al).length + cost unit al := by
  induction al with
  | nil => exact ⟨Nat.le_refl _, Nat.le_refl _⟩
  | cons p al ih =>
    rw [srcOf_cons, tgtOf_cons, cost_cons]
    generalize cost unit al = k at ih ⊢
    rcases p with ⟨_ | a, _ | b⟩ <;>
      simp only [Option.toList, List.nil_append, List.singleton_append, List.length_cons, stepCost,
        unit] <;> (try split) <;> omega

/-- Pair the sequences position by position; the longer one's tail is deleted / inserted. -/
def zipAl : List α → List α → Alignment α
  | [], t => t.map (fun b => (none, some b))
  | a :: s, [] => (a :: s).map (fun a => (some a, none))
  | a :: s, b :: t => (some a, some b) :: zipAl s t

theorem zipAl_props (s t : List α) :
    WellFormed (zipAl s t) ∧ srcOf (zipAl s t) = s ∧ tgtOf (zipAl s t) = t ∧
      cost unit (zipAl s t) ≤ max s.length t.length := by
  fun_induction zipAl s t with
  | case1 t =>
    -- a run of insertions is a run of deletions, swapped
    have h : t.map (fun b => ((none, some b) : Option α × Option α)) =
        swapAl (t.map fun b => (some b, none)) := by simp [swapAl]
    rw [h]
    exact ⟨wf_swapAl (wf_map_del t), (srcOf_swapAl _).trans (tgtOf_map_del t),
      (tgtOf_swapAl _).trans (srcOf_map_del t), by
        rw [cost_swapAl unit rfl, cost_map_del]; simp [unit]⟩
  | case2 a s =>
    exact ⟨wf_map_del _, srcOf_map_del _, tgtOf_map_del _, by rw [cost_map_del]; simp [unit]⟩
  | case3 a s b t ih =>
    obtain ⟨hw, hs, ht, hc⟩ := ih
    refine ⟨wf_cons.2 ⟨by simp, hw⟩, congrArg (a :: ·) hs, congrArg (b :: ·) ht, ?_⟩
    rw [cost_cons, List.length_cons, List.length_cons]
    have : stepCost unit (some a, some b) ≤ 1 := by simp only [stepCost, unit]; split <;> omega
    omega

/-! ### line-end classification (C13.ending_total) -/

/-- total version of `matchType`, for the proofs only -/
def mtT (p : Option α × Option α) : MatchType := (matchType p).getD .C

theorem matchTypes_wf (al : Alignment α) (hw : WellFormed al) : matchTypes al = some (al.map mtT) := by
  induction al, hw using WellFormed.induction with
  | nil => rfl
  | del a al _ ih => simp [matchTypes, ih, matchType, mtT]
  | sub a b al _ ih => simp [matchTypes, ih, matchType, mtT]
  | ins b al _ ih => simp [matchTypes, ih, matchType, mtT]

theorem stepCost_of_nonC (p : Option α × Option α) (hp : p ≠ (none, none)) (h : mtT p ≠ .C) :
    stepCost unit p = 1 := by
  rcases p with ⟨_ | a, _ | b⟩
  · exact absurd rfl hp
  · simp [stepCost, unit]
  · simp [stepCost, unit]
  · by_cases hab : a = b
    · subst hab; simp [mtT, matchType] at h
    · simp [stepCost, unit, hab]

theorem mtT_I (p : Option α × Option α) (h : mtT p = .I) : p.2 = none := by
  rcases p with ⟨_ | a, _ | b⟩ <;> simp [mtT, matchType] at h ⊢
  split at h <;> simp_all

theorem mtT_D (p : Option α × Option α) (h : mtT p = .D) : p.1 = none := by
  rcases p with ⟨_ | a, _ | b⟩ <;> simp [mtT, matchType] at h ⊢
  split at h <;> simp_all

theorem cost_nonC (suf : Alignment α) (hw : WellFormed suf) (h : ∀ p ∈ suf, mtT p ≠ .C) :
    cost unit suf = suf.length := by
  induction suf with
  | nil => rfl
  | cons p suf ih =>
    have hw' : WellFormed suf := fun q hq => hw q (List.mem_cons_of_mem _ hq)
    have := stepCost_of_nonC p (hw p List.mem_cons_self) (h p List.mem_cons_self)
    have ih' := ih hw' (fun q hq => h q (List.mem_cons_of_mem _ hq))
    simp only [cost, List.map_cons, List.sum_cons, List.length_cons] at ih' ⊢
    omega

theorem filterMap_length_lt {β γ : Type} (f : β → Option γ) (l : List β) (h : ∃ p ∈ l, f p = none) :
    (l.filterMap f).length < l.length := by
  induction l with
  | nil => obtain ⟨p, hp, _⟩ := h; simp at hp
  | cons x l ih =>
    obtain ⟨p, hp, hf⟩ := h
    have hle := List.length_filterMap_le f l
    rcases List.mem_cons.mp hp with rfl | hp
    · rw [List.filterMap_cons_none hf, List.length_cons]; omega
    · have := ih ⟨p, hp, hf⟩
      cases hx : f x with
      | none => rw [List.filterMap_cons_none hx, List.length_cons]; omega
      | some y => rw [List.filterMap_cons_some hx, List.length_cons, List.length_cons]; omega

theorem boundaryClass_ok (b : List MatchType) (hC : ∀ m ∈ b, m ≠ .C) (hID : ¬(.I ∈ b ∧ .D ∈ b)) :
    ∃ c, boundaryClass b = some c ∧ c ≠ .nothing := by
  unfold boundaryClass
  rw [if_neg hID]
  by_cases h0 : b.length = 0
  · exact ⟨_, if_pos h0, by decide⟩
  -- `b` is not empty and holds no `C`: one of the tests for `D`, `I`, `S` succeeds
  have hne : .D ∈ b ∨ .I ∈ b ∨ .S ∈ b := by
    cases b with
    | nil => exact absurd rfl h0
    | cons m r => have := hC m List.mem_cons_self; cases m <;> simp_all
  rw [if_neg h0]
  by_cases h1 : MatchType.S ∈ b ∧ MatchType.D ∈ b
  · exact ⟨_, if_pos h1, by decide⟩
  rw [if_neg h1]
  by_cases h2 : MatchType.S ∈ b ∧ MatchType.I ∈ b
  · exact ⟨_, if_pos h2, by decide⟩
  rw [if_neg h2]
  by_cases hD : MatchType.D ∈ b
  · exact ⟨_, if_pos hD, by decide⟩
  rw [if_neg hD]
  by_cases hI : MatchType.I ∈ b
  · exact ⟨_, if_pos hI, by decide⟩
  rw [if_neg hI]
  by_cases hS : MatchType.S ∈ b
  · exact ⟨_, if_pos hS, by decide⟩
  · exact absurd hne (by simp [hD, hI, hS])

theorem optimal_suffix_no_ins_del (s t : List α) (al : Alignment α) (hw : WellFormed al)
    (hs : srcOf al = s) (ht : tgtOf al = t) (hc : cost unit al = dist unit s t) :
    ¬(MatchType.I ∈ nonMatchSuffix (al.map mtT) ∧ MatchType.D ∈ nonMatchSuffix (al.map mtT)) ∧
    ∀ m ∈ nonMatchSuffix (al.map mtT), m ≠ .C := by
  let q : Option α × Option α → Bool := fun p => decide (mtT p ≠ .C)
  let suf := (al.reverse.takeWhile q).reverse
  let pre := (al.reverse.dropWhile q).reverse
  have hal : al = pre ++ suf := by
    have := List.takeWhile_append_dropWhile (p := q) (l := al.reverse)
    have h2 := congrArg List.reverse this
    rw [List.reverse_append, List.reverse_reverse] at h2
    exact h2.symm
  have hsuf : nonMatchSuffix (al.map mtT) = suf.map mtT := by
    simp only [nonMatchSuffix, nonMatchPrefix, ← List.map_reverse, List.takeWhile_map, suf, q]
    rfl
  have hnc : ∀ p ∈ suf, mtT p ≠ .C := by
    intro p hp
    have hp' : p ∈ al.reverse.takeWhile q := List.mem_reverse.mp hp
    have hall := List.all_takeWhile (p := q) (l := al.reverse)
    have := List.all_eq_true.mp hall p hp'
    simpa [q] using this
  rw [hsuf]
  refine ⟨?_, ?_⟩
  · rintro ⟨hI, hD⟩
    obtain ⟨pI, hpI, hmI⟩ := List.mem_map.mp hI
    obtain ⟨pD, hpD, hmD⟩ := List.mem_map.mp hD
    have hwp : WellFormed pre ∧ WellFormed suf := wf_append.mp (hal ▸ hw)
    have hcs := cost_nonC suf hwp.2 hnc
    have h1 : (tgtOf suf).length < suf.length :=
      filterMap_length_lt Prod.snd suf ⟨pI, hpI, mtT_I pI hmI⟩
    have h2 : (srcOf suf).length < suf.length :=
      filterMap_length_lt Prod.fst suf ⟨pD, hpD, mtT_D pD hmD⟩
    obtain ⟨zw, zs, zt, zc⟩ := zipAl_props (srcOf suf) (tgtOf suf)
    have hw' : WellFormed (pre ++ zipAl (srcOf suf) (tgtOf suf)) := wf_append.mpr ⟨hwp.1, zw⟩
    have hs' : srcOf (pre ++ zipAl (srcOf suf) (tgtOf suf)) = s := by
      rw [srcOf_append, zs, ← srcOf_append, ← hal, hs]
    have ht' : tgtOf (pre ++ zipAl (srcOf suf) (tgtOf suf)) = t := by
      rw [tgtOf_append, zt, ← tgtOf_append, ← hal, ht]
    have hmin := (dist_isMin unit s t).2 _ hw' hs' ht'
    rw [cost_append] at hmin
    have hcal : cost unit al = cost unit pre + cost unit suf := by rw [hal, cost_append]
    omega
  · intro m hm
    obtain ⟨p, hp, rfl⟩ := List.mem_map.mp hm
    exact hnc p hp

/-! ### composition of alignments (C13.dist_unit_triangle) -/

/-- compose an alignment of `s` with `t` and an alignment of `t` with `u` into one of `s` with `u` -/
def compose : Alignment α → Alignment α → Alignment α
  | [], al2 => al2
  | (some a, none) :: r1, al2 => (some a, none) :: compose r1 al2
  | (none, none) :: r1, al2 => compose r1 al2
  | (x, some b) :: r1, [] => (x, some b) :: r1
  | (x, some b) :: r1, (none, some c) :: r2 => (none, some c) :: compose ((x, some b) :: r1) r2
  | (x, some b) :: r1, (none, none) :: r2 => compose ((x, some b) :: r1) r2
  | (none, some _) :: r1, (some _, none) :: r2 => compose r1 r2
  | (some a, some _) :: r1, (some _, none) :: r2 => (some a, none) :: compose r1 r2
  | (x, some _) :: r1, (some _, some c) :: r2 => (x, some c) :: compose r1 r2
termination_by al1 al2 => al1.length + al2.length

theorem stepCost_triangle (c : Costs) (a b d : α) :
    stepCost c (some a, some d) ≤ stepCost c (some a, some b) + stepCost c (some b, some d) := by
  simp only [stepCost]
  by_cases h1 : a = b
  · subst h1; simp
  · by_cases h2 : b = d
    · subst h2; simp
    · simp only [h1, h2, if_false]; split <;> omega

theorem compose_cost_le (c : Costs) (al1 al2 : Alignment α) (hw1 : WellFormed al1) (hw2 : WellFormed al2)
    (h : tgtOf al1 = srcOf al2) :
    WellFormed (compose al1 al2) ∧ srcOf (compose al1 al2) = srcOf al1 ∧ tgtOf (compose al1 al2) = tgtOf al2 ∧
    cost c (compose al1 al2) ≤ cost c al1 + cost c al2 := by
  fun_induction compose al1 al2 with
  | case1 al2 => exact ⟨hw2, h.symm, rfl, by simp⟩
  | case2 a r1 al2 ih =>
    obtain ⟨i1, i2, i3, i4⟩ := ih (wf_cons.1 hw1).2 hw2 h
    refine ⟨wf_cons.2 ⟨by simp, i1⟩, congrArg (a :: ·) i2, i3, ?_⟩
    rw [cost_cons, cost_cons]; omega
  | case3 r1 al2 ih => exact absurd rfl (wf_cons.1 hw1).1
  | case4 x b r1 => cases h
  | case5 x b r1 d r2 ih =>
    obtain ⟨i1, i2, i3, i4⟩ := ih hw1 (wf_cons.1 hw2).2 h
    refine ⟨wf_cons.2 ⟨by simp, i1⟩, i2, congrArg (d :: ·) i3, ?_⟩
    rw [cost_cons, cost_cons (al := r2)]; omega
  | case6 x b r1 r2 ih => exact absurd rfl (wf_cons.1 hw2).1
  | case7 b r1 b' r2 ih =>
    obtain ⟨i1, i2, i3, i4⟩ := ih (wf_cons.1 hw1).2 (wf_cons.1 hw2).2 (List.cons.inj h).2
    refine ⟨i1, i2, i3, ?_⟩
    rw [cost_cons, cost_cons (al := r2)]; omega
  | case8 a b r1 b' r2 ih =>
    obtain ⟨i1, i2, i3, i4⟩ := ih (wf_cons.1 hw1).2 (wf_cons.1 hw2).2 (List.cons.inj h).2
    refine ⟨wf_cons.2 ⟨by simp, i1⟩, congrArg (a :: ·) i2, i3, ?_⟩
    rw [cost_cons, cost_cons, cost_cons (al := r2)]
    simp only [stepCost] at i4 ⊢; omega
  | case9 x b r1 b' d r2 ih =>
    obtain ⟨rfl, h'⟩ := List.cons.inj h
    obtain ⟨i1, i2, i3, i4⟩ := ih (wf_cons.1 hw1).2 (wf_cons.1 hw2).2 h'
    refine ⟨wf_cons.2 ⟨by simp, i1⟩, ?_, congrArg (d :: ·) i3, ?_⟩
    · cases x
      · exact i2
      · exact congrArg (_ :: ·) i2
    · rw [cost_cons, cost_cons, cost_cons (al := r2)]
      cases x with
      | none => simp only [stepCost] at i4 ⊢; omega
      | some a => have := stepCost_triangle c a b d; omega

theorem compose_spec (al1 al2 : Alignment α) (hw1 : WellFormed al1) (hw2 : WellFormed al2)
    (h : tgtOf al1 = srcOf al2) :
    WellFormed (compose al1 al2) ∧ srcOf (compose al1 al2) = srcOf al1 ∧ tgtOf (compose al1 al2) = tgtOf al2 ∧
    cost unit (compose al1 al2) ≤ cost unit al1 + cost unit al2 :=
  compose_cost_le unit al1 al2 hw1 hw2 h

theorem dist_triangle (c : Costs) (s t u : List α) : dist c s u ≤ dist c s t + dist c t u := by
  obtain ⟨al1, hw1, hs1, ht1, hc1⟩ := (dist_isMin c s t).1
  obtain ⟨al2, hw2, hs2, ht2, hc2⟩ := (dist_isMin c t u).1
  obtain ⟨hw, hs, ht, hc⟩ := compose_cost_le c al1 al2 hw1 hw2 (by rw [ht1, hs2])
  have := (dist_isMin c s u).2 _ hw (by rw [hs, hs1]) (by rw [ht, ht2])
  omega

end Lev
