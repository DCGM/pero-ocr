/-
Helper lemmas for C13.substring_alignment_correct (`levenshtein_alignment_substring`).
Core Lean only.

Row `i` of the matrix that `subRows` builds is the fold of `rowStepSub` over `src.take i` (`subRow`); its last-column tag
compares the running best before the row (`subBest` of `src.take (i-1)`) with the row's last value.  `suffixBeginning`
picks the last row whose last-column tag is not `del`; that row attains the final best (`subRows_choice`).  The
backtracking from there is `back_ok` for the suffix family.
-/
import PeroVerif.Lemmas.Lev

namespace Lev
variable {α : Type}

section
variable [DecidableEq α]

def subRow (c : Costs) (t s : List α) (i : Nat) : List Cell :=
  (s.take i).foldl (rowStepSub c t) (initRow c t)

theorem subRow_rowP (c : Costs) (t s : List α) (i : Nat) :
    RowP (CellOK c (fun σ u => u <:+ σ) (s.take i)) [] t (subRow c t s i) :=
  fold_cellOK c srcFam_suffix t _ (rowStepSub_cellOK c t) (s.take i)

theorem subRow_succ (c : Costs) (t s : List α) (i : Nat) (hi : i < s.length) :
    subRow c t s (i + 1) = rowStepSub c t (subRow c t s i) s[i] := by
  unfold subRow
  rw [List.take_succ_eq_append_getElem hi, List.foldl_append]
  rfl

theorem subRow_zero (c : Costs) (t s : List α) : subRow c t s 0 = initRow c t := by
  simp [subRow]

omit [DecidableEq α] in
theorem lastVal_initRow (c : Costs) (t : List α) : lastVal (initRow c t) = t.length * c.ins := by
  have h := initRow_rowP c (fun (τ' : List α) (y : Cell) => y.1 = τ'.length * c.ins)
    (fun _ => rfl) t
  obtain ⟨x, hx, hv⟩ := rowP_getLast t [] _ h
  simp only [lastVal, hx]
  simpa using hv

def tagOf (b v : Nat) : Tag := if b = v then Tag.sub else if v < b then Tag.ins else Tag.del

theorem subRows_length (c : Costs) (t : List α) :
    ∀ (ss : List α) (row : List Cell) (best : Nat), (subRows c t row best ss).length = ss.length := by
  intro ss
  induction ss with
  | nil => intro row best; rfl
  | cons x ss ih => intro row best; simp [subRows, ih]

theorem subRows_getElem? (c : Costs) (t : List α) :
    ∀ (ss : List α) (row : List Cell) (best i : Nat), i < ss.length →
      (subRows c t row best ss)[i]? =
        some ((ss.take (i + 1)).foldl (rowStepSub c t) row,
          tagOf (subLoop c t row best (ss.take i))
            (lastVal ((ss.take (i + 1)).foldl (rowStepSub c t) row))) := by
  intro ss
  induction ss with
  | nil => intro row best i hi; simp at hi
  | cons x ss ih =>
    intro row best i hi
    cases i with
    | zero => simp [subRows, subLoop, tagOf]
    | succ i =>
      have := ih (rowStepSub c t row x) (min best (lastVal (rowStepSub c t row x))) i
        (by simpa using hi)
      simpa [subRows, subLoop] using this

theorem subLoop_snoc (c : Costs) (t : List α) (x : α) :
    ∀ (l : List α) (row : List Cell) (best : Nat),
      subLoop c t row best (l ++ [x]) =
        min (subLoop c t row best l) (lastVal ((l ++ [x]).foldl (rowStepSub c t) row)) := by
  intro l
  induction l with
  | nil => intro row best; simp [subLoop]
  | cons y l ih => intro row best; simp only [List.cons_append, subLoop, List.foldl_cons]; exact ih _ _

theorem subBest_zero (c : Costs) (t s : List α) :
    subBest c t (s.take 0) = lastVal (subRow c t s 0) := by
  simp [subBest, subLoop, subRow_zero, lastVal_initRow]

theorem subBest_succ (c : Costs) (t s : List α) (i : Nat) (hi : i < s.length) :
    subBest c t (s.take (i + 1)) = min (subBest c t (s.take i)) (lastVal (subRow c t s (i + 1))) := by
  unfold subBest subRow
  rw [List.take_succ_eq_append_getElem hi]
  exact subLoop_snoc c t _ _ _ _

theorem subRows_get (c : Costs) (t s : List α) (i : Nat) (hi : i < s.length) :
    (subRows c t (initRow c t) (t.length * c.ins) s)[i]? =
      some (subRow c t s (i + 1), tagOf (subBest c t (s.take i)) (lastVal (subRow c t s (i + 1)))) :=
  subRows_getElem? c t s _ _ i hi

theorem subRows_row (c : Costs) (t s : List α) (i : Nat) (hi : i ≤ s.length) :
    (initRow c t :: (subRows c t (initRow c t) (t.length * c.ins) s).map (·.1))[i]? =
      some (subRow c t s i) := by
  cases i with
  | zero => simp [subRow_zero]
  | succ i => simp [subRows_get c t s i hi]

end

theorem lastSat (p : Nat → Bool) :
    ∀ n, match ((List.range n).filter p).getLast? with
      | some i => i < n ∧ p i = true ∧ ∀ j, i < j → j < n → p j = false
      | none => ∀ j, j < n → p j = false := by
  intro n
  induction n with
  | zero => simp
  | succ n ih =>
    rw [List.range_succ, List.filter_append]
    by_cases hp : p n = true
    · simp only [List.filter_cons, hp, List.filter_nil, if_true]
      rw [List.getLast?_append]
      simp only [List.getLast?_singleton, Option.some_or]
      exact ⟨by omega, hp, by intro j h1 h2; omega⟩
    · have hp' : p n = false := by simpa using hp
      simp only [List.filter_cons, hp', List.filter_nil, List.append_nil, Bool.false_eq_true,
        if_false]
      revert ih
      cases ((List.range n).filter p).getLast? with
      | none =>
        intro ih j hj
        by_cases h : j = n
        · subst h; exact hp'
        · exact ih j (by omega)
      | some i =>
        rintro ⟨h1, h2, h3⟩
        refine ⟨by omega, h2, ?_⟩
        intro j hj1 hj2
        by_cases h : j = n
        · subst h; exact hp'
        · exact h3 j hj1 (by omega)

theorem suffixBeginning_spec (tags : List Tag) (hne : 0 < tags.length)
    (h0 : tags.getD 0 Tag.ins ≠ Tag.del) :
    1 ≤ suffixBeginning tags ∧ suffixBeginning tags ≤ tags.length ∧
      tags.getD (suffixBeginning tags - 1) Tag.ins ≠ Tag.del ∧
      ∀ j, suffixBeginning tags ≤ j → j < tags.length → tags.getD j Tag.ins = Tag.del := by
  unfold suffixBeginning
  by_cases hany : tags.any (· == Tag.del) = true
  · rw [if_pos hany]
    have hl := lastSat (fun i => tags.getD i Tag.ins != Tag.del) tags.length
    revert hl
    cases ((List.range tags.length).filter fun i => tags.getD i Tag.ins != Tag.del).getLast? with
    | none =>
      intro hl
      have := hl 0 hne
      simp at this
      exact absurd this h0
    | some i =>
      rintro ⟨h1, h2, h3⟩
      dsimp only
      refine ⟨by omega, by omega, ?_, ?_⟩
      · simpa using h2
      · intro j hj1 hj2
        have := h3 j (by omega) hj2
        simpa using this
  · rw [if_neg hany]
    refine ⟨hne, Nat.le_refl _, ?_, ?_⟩
    · intro hd
      apply hany
      rw [List.any_eq_true]
      refine ⟨tags[tags.length - 1]'(by omega), List.getElem_mem _, ?_⟩
      have : tags.getD (tags.length - 1) Tag.ins = tags[tags.length - 1]'(by omega) := by
        simp [List.getD_eq_getElem?_getD,
          List.getElem?_eq_getElem (show tags.length - 1 < tags.length by omega)]
      rw [← this, hd]; rfl
    · intro j h1 h2; omega

theorem tagOf_eq_del_iff (b v : Nat) : tagOf b v = Tag.del ↔ b < v := by
  unfold tagOf
  split
  · simp; omega
  · split
    · simp; omega
    · simp; omega

/-- the last row whose last-column tag is not `del` attains the final running best -/
theorem last_nondel (n : Nat) (B V : Nat → Nat) (tag : Nat → Tag) (hB0 : B 0 = V 0)
    (hB : ∀ i, i < n → B (i + 1) = min (B i) (V (i + 1)))
    (htag : ∀ i, i < n → tag (i + 1) = tagOf (B i) (V (i + 1)))
    (k : Nat) (hk : k ≤ n) (hk1 : k = 0 ∨ tag k ≠ Tag.del)
    (hk2 : ∀ j, k < j → j ≤ n → tag j = Tag.del) : V k = B n := by
  -- after row `k` the best does not change
  have hstab : ∀ d, k + d ≤ n → B (k + d) = B k := by
    intro d
    induction d with
    | zero => intro _; rfl
    | succ d ih =>
      intro hd
      have h3 := hk2 (k + d + 1) (by omega) (by omega)
      rw [htag (k + d) (by omega), tagOf_eq_del_iff] at h3
      rw [← Nat.add_assoc, hB (k + d) (by omega), Nat.min_eq_left (Nat.le_of_lt h3)]
      exact ih (by omega)
  -- row `k` itself takes the best
  have hk' : B k = V k := by
    cases k with
    | zero => exact hB0
    | succ k' =>
      have h3 : tag (k' + 1) ≠ Tag.del := hk1.resolve_left (by omega)
      rw [htag k' (by omega), Ne, tagOf_eq_del_iff, Nat.not_lt] at h3
      rw [hB k' (by omega), Nat.min_eq_right h3]
  have := hstab (n - k) (by omega)
  rw [show k + (n - k) = n by omega] at this
  rw [this, hk']

section
variable [DecidableEq α]

/-- `alignmentSub` before the final swap, on the oriented pair -/
def alignSubCore (c : Costs) (src tgt : List α) : Option (Alignment α) :=
  let r0 := initRow c tgt
  let rs := subRows c tgt r0 (tgt.length * c.ins) src
  let lastTags := Tag.ins :: rs.map (·.2)
  let sb := suffixBeginning lastTags
  let rows := (r0 :: rs.map (·.1)).take sb
  let tail : List (Option α × Option α) := (src.drop (sb - 1)).map fun x => (some x, none)
  back rows src tgt (sb - 1 + tgt.length) (sb - 1) tgt.length tail

theorem alignmentSub_eq (c : Costs) (s t : List α) :
    alignmentSub c s t = (alignSubCore c (orient s t).1 (orient s t).2).map fun al =>
      if decide (t.length > s.length) then al.map (fun p => (p.2, p.1)) else al := by
  unfold alignmentSub alignSubCore
  simp only []
  split <;> rename_i h <;> rw [h] <;> rfl

/-- `suffixBeginning` picks a row `k` whose last value is the final best. -/
theorem subRows_choice (c : Costs) (src tgt : List α) :
    ∃ k, suffixBeginning
        (Tag.ins :: (subRows c tgt (initRow c tgt) (tgt.length * c.ins) src).map (·.2)) = k + 1 ∧
      k ≤ src.length ∧ lastVal (subRow c tgt src k) = subBest c tgt src := by
  generalize htags :
    Tag.ins :: (subRows c tgt (initRow c tgt) (tgt.length * c.ins) src).map (·.2) = tags
  have htl : tags.length = src.length + 1 := by rw [← htags]; simp [subRows_length]
  have htag0 : tags.getD 0 Tag.ins = Tag.ins := by rw [← htags]; rfl
  obtain ⟨hs1, hs2, hs3, hs4⟩ := suffixBeginning_spec tags (by omega) (by rw [htag0]; decide)
  obtain ⟨k, hk⟩ : ∃ k, suffixBeginning tags = k + 1 := ⟨_, (Nat.sub_add_cancel hs1).symm⟩
  rw [hk] at hs2 hs3 hs4
  refine ⟨k, hk, by omega, ?_⟩
  have := last_nondel src.length (fun i => subBest c tgt (src.take i))
    (fun i => lastVal (subRow c tgt src i)) (fun i => tags.getD i Tag.ins)
    (subBest_zero c tgt src) (subBest_succ c tgt src)
    (fun i hi => by rw [← htags]; simp [List.getD_eq_getElem?_getD, subRows_get c tgt src i hi])
    k (by omega) (Or.inr hs3) (fun j h1 h2 => hs4 j (by omega) (by omega))
  simpa using this

theorem alignSubCore_ok (c : Costs) (src tgt : List α) :
    ∃ pre core suf, alignSubCore c src tgt = some (pre ++ core ++ suf) ∧
      WellFormed pre ∧ tgtOf pre = [] ∧ WellFormed suf ∧ tgtOf suf = [] ∧
      WellFormed core ∧ srcOf pre ++ srcOf core ++ srcOf suf = src ∧ tgtOf core = tgt ∧
      cost c core = subBest c tgt src := by
  obtain ⟨k, hsb, hk, hbest⟩ := subRows_choice c src tgt
  unfold alignSubCore
  simp only [hsb, Nat.add_sub_cancel]
  have hrow : ∀ i, i ≤ k → ((initRow c tgt ::
      (subRows c tgt (initRow c tgt) (tgt.length * c.ins) src).map (·.1)).take (k + 1))[i]? =
        some (subRow c tgt src i) := by
    intro i hi
    rw [List.getElem?_take, if_pos (by omega), subRows_row c tgt src i (by omega)]
  obtain ⟨pre, core, hb, hwp, htp, hw, hsrc, htgt, -, hm⟩ :=
    back_ok c srcFam_suffix src tgt _ k hk
      (fun i hi _ => by
        have h1 := hrow (i + 1) (by omega)
        rw [subRow_succ c tgt src i (by omega)] at h1
        exact tagAt_eq _ (i + 1) 0 _ (0, Tag.del) h1 (by simp [rowStepSub]))
      (fun i hi j hj => by
        obtain ⟨x, hx, hok⟩ := rowP_get tgt [] _ (subRow_rowP c tgt src i) j hj
        exact ⟨_, x, hrow i hi, hx, by simpa using hok⟩)
      (k + tgt.length) k tgt.length ((src.drop k).map fun x => (some x, none)) (Nat.le_refl _)
      (Nat.le_refl _) (Nat.le_refl _)
  refine ⟨pre, core, (src.drop k).map fun x => (some x, none), hb, hwp, htp, wf_map_del _,
    tgtOf_map_del _, hw, ?_, ?_, ?_⟩
  · rw [hsrc, srcOf_map_del, List.take_append_drop]
  · simpa using htgt
  · obtain ⟨x, hx, hok⟩ := rowP_getLast tgt [] _ (subRow_rowP c tgt src k)
    have hv : lastVal (subRow c tgt src k) = x.1 := by simp [lastVal, hx]
    rw [← hbest, hv]
    rw [List.take_length] at hm
    exact hm.unique (by simpa using hok.1)

omit [DecidableEq α] in
theorem tgtOf_eq_nil_iff {l : Alignment α} : tgtOf l = [] ↔ ∀ p ∈ l, p.2 = none :=
  List.filterMap_eq_nil_iff

end

end Lev
