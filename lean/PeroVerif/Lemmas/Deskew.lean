/- Helper lemma for the de-skew rotation (C12). -/
import Mathlib.Tactic.Ring
import Mathlib.Tactic.LinearCombination
import Mathlib.Algebra.Order.Field.Rat
import PeroVerif.Model.Deskew

namespace Deskew

theorem rot_rot_back (c s : Rat) (h : c * c + s * s = 1) (p : Pt) : rot c s (rot c (-s) p) = p := by
  unfold rot
  refine Prod.ext ?_ ?_
  · linear_combination p.1 * h
  · linear_combination p.2 * h

end Deskew
