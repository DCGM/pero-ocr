/- Equations and basic facts of `collapseAux` / `collapse` (shared by C02–C05, C16). -/
import PeroVerif.Model.Ctc
namespace Ctc

theorem collapseAux_nil (blank : Nat) (prev : Option Nat) : collapseAux blank prev [] = [] := by
  simp only [collapseAux]

theorem collapseAux_cons (blank : Nat) (prev : Option Nat) (s : Nat) (rest : List Nat) :
    collapseAux blank prev (s :: rest) =
      (if s = blank ∨ prev = some s then [] else [s]) ++ collapseAux blank (some s) rest := by
  simp only [collapseAux]

theorem collapseAux_snoc (blank : Nat) (prev : Option Nat) (p : List Nat) (s : Nat) :
    collapseAux blank prev (p ++ [s]) =
      collapseAux blank prev p ++
        (if s = blank ∨ (p.getLast?.or prev) = some s then [] else [s]) := by
  induction p generalizing prev with
  | nil =>
    simp only [List.nil_append, collapseAux, List.append_nil, List.getLast?_nil, Option.none_or]
    split <;> rename_i h <;> simp [h]
  | cons a rest ih =>
    simp only [List.cons_append, collapseAux, ih, List.append_assoc]
    congr 2
    cases rest with
    | nil => simp
    | cons b r =>
      have : ((b :: r).getLast?.or (some a)) = ((a :: b :: r).getLast?.or prev) := by
        simp [List.getLast?_cons_cons]
        cases h : (b :: r).getLast? <;> simp_all
      rw [this]

theorem collapse_snoc (blank : Nat) (p : List Nat) (s : Nat) :
    collapse blank (p ++ [s]) =
      collapse blank p ++ (if s = blank ∨ p.getLast? = some s then [] else [s]) := by
  simp only [collapse, collapseAux_snoc, Option.or_none]

theorem collapse_nil (blank : Nat) : collapse blank [] = [] := by
  simp only [collapse, collapseAux]

/-- A blank predecessor never suppresses anything (blanks are dropped anyway). -/
theorem collapseAux_some_blank (blank : Nat) (p : List Nat) :
    collapseAux blank (some blank) p = collapseAux blank none p := by
  cases p with
  | nil => simp only [collapseAux]
  | cons s rest =>
    simp only [collapseAux]
    congr 1
    by_cases h : s = blank
    · simp [h]
    · have : ¬ (some blank = some s) := by
        intro h'; exact h (Option.some.inj h').symm
      simp [h, this]

theorem blank_not_mem_collapseAux (blank : Nat) (prev : Option Nat) (p : List Nat) :
    blank ∉ collapseAux blank prev p := by
  induction p generalizing prev with
  | nil => simp [collapseAux]
  | cons s rest ih =>
    simp only [collapseAux, List.mem_append, not_or]
    refine ⟨?_, ih _⟩
    split
    · simp
    · rename_i h
      simp only [not_or] at h
      simp only [List.mem_singleton]
      exact fun h' => h.1 h'.symm

/-- no blank in the output -/
theorem blank_not_mem_collapse (blank : Nat) (p : List Nat) : blank ∉ collapse blank p :=
  blank_not_mem_collapseAux blank none p

/-- collapsing only deletes symbols -/
theorem collapseAux_sublist (blank : Nat) (prev : Option Nat) (p : List Nat) :
    (collapseAux blank prev p).Sublist p := by
  induction p generalizing prev with
  | nil => exact .slnil
  | cons s rest ih =>
    rw [collapseAux_cons]
    split
    · exact (ih _).cons s
    · exact (ih _).cons_cons s

theorem mem_collapseAux {blank : Nat} {prev : Option Nat} {p : List Nat} {x : Nat}
    (h : x ∈ collapseAux blank prev p) : x ∈ p :=
  (collapseAux_sublist blank prev p).subset h

theorem mem_collapse {blank : Nat} {p : List Nat} {x : Nat} (h : x ∈ collapse blank p) : x ∈ p :=
  mem_collapseAux h

/-- every symbol of the path is the blank, repeats `prev`, or survives -/
theorem mem_collapseAux_of_mem {blank : Nat} {prev : Option Nat} {p : List Nat} {s : Nat} (hs : s ∈ p) :
    s = blank ∨ prev = some s ∨ s ∈ collapseAux blank prev p := by
  induction p generalizing prev with
  | nil => cases hs
  | cons a r ih =>
    rw [collapseAux_cons]
    by_cases hsa : s = a
    · subst hsa
      by_cases h : s = blank ∨ prev = some s
      · exact h.imp_right .inl
      · exact .inr (.inr (by rw [if_neg h]; exact List.mem_append_left _ (List.mem_singleton_self s)))
    · rcases ih (prev := some a) ((List.mem_cons.1 hs).resolve_left hsa) with h | h | h
      · exact .inl h
      · exact absurd (Option.some.inj h).symm hsa
      · exact .inr (.inr (List.mem_append_right _ h))

theorem collapseAux_length_le (blank : Nat) (prev : Option Nat) (p : List Nat) :
    (collapseAux blank prev p).length ≤ p.length :=
  (collapseAux_sublist blank prev p).length_le

/-- the output is no longer than the path -/
theorem collapse_length_le (blank : Nat) (p : List Nat) : (collapse blank p).length ≤ p.length :=
  collapseAux_length_le blank none p

end Ctc
