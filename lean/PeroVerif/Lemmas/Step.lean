/-
One frame of the prefix beam search, for any operations record: the two equations of `step`, the
candidates as a list of extension and stay entries, and the shape of what a frame can produce
(an old entry with new probabilities, or its extension by one symbol).  Core Lean only; used by the
C02 and the C03 lemmas.
-/
import PeroVerif.Model.PrefixBeam

namespace PB
variable {H R : Type} {o : Ops R} {sel : R → Bool} {row : List R}

theorem step_of_nil (h : selected o sel row = []) (lm : LM H R) (k : Nat)
    (choose : Nat → List (Entry H R) → List (Entry H R)) (beam : List (Entry H R)) :
    step o lm sel k choose beam row =
      beam.map fun e => { e with pb := stayPb o row e, pnb := o.zero } := by
  unfold step
  rw [h]
  rfl

theorem step_of_ne_nil (h : selected o sel row ≠ []) (lm : LM H R) (k : Nat)
    (choose : Nat → List (Entry H R) → List (Entry H R)) (beam : List (Entry H R)) :
    step o lm sel k choose beam row =
      choose (min k ((candidates o lm (selected o sel row) beam row).filter
          fun c => o.lt o.zero (score o c)).length)
        ((candidates o lm (selected o sel row) beam row).filter fun c => o.lt o.zero (score o c)) := by
  unfold step
  rw [if_neg (by simpa using h)]

theorem mem_selected {c : Nat} :
    c ∈ selected o sel row ↔ c < row.length - 1 ∧ sel (rowAt o row c) = true := by
  simp [selected]

theorem nodup_selected (o : Ops R) (sel : R → Bool) (row : List R) : (selected o sel row).Nodup :=
  List.filter_sublist.nodup List.nodup_range

def extC (o : Ops R) (lm : LM H R) (S : List Nat) (beam : List (Entry H R)) (row : List R)
    (e : Entry H R) (c : Nat) : Entry H R :=
  { pre := e.pre ++ [c], last := c, pb := o.zero, pnb := extJ o S beam row e c,
    plm := o.mul e.plm (lm.prob e.h c), h := lm.adv e.h c }

def stayC (o : Ops R) (S : List Nat) (beam : List (Entry H R)) (row : List R)
    (e : Entry H R) : Entry H R :=
  { e with pb := stayPb o row e, pnb := stayPnb o S beam row e }

theorem candidates_eq (o : Ops R) (lm : LM H R) (S : List Nat) (beam : List (Entry H R))
    (row : List R) :
    candidates o lm S beam row =
      beam.flatMap fun e => (S.map (extC o lm S beam row e)) ++ [stayC o S beam row e] := rfl

theorem mem_candidates {lm : LM H R} {S : List Nat} {beam : List (Entry H R)} {x : Entry H R} :
    x ∈ candidates o lm S beam row ↔
      ∃ e ∈ beam, (∃ c ∈ S, x = extC o lm S beam row e c) ∨ x = stayC o S beam row e := by
  simp only [candidates_eq, List.mem_flatMap, List.mem_append, List.mem_map, List.mem_singleton,
    eq_comm]

theorem absorbs_iff (q e : Entry H R) (c : Nat) :
    absorbs q e c = true ↔ q.pre ≠ [] ∧ q.pre.dropLast = e.pre ∧ q.last = c := by
  simp [absorbs, and_assoc]

/-- Whatever the probabilities: an entry after a frame is an entry before it with new `pb`/`pnb`,
or its extension by one symbol. -/
theorem mem_step_cases {lm : LM H R} {k : Nat} {choose : Nat → List (Entry H R) → List (Entry H R)}
    (hs : ∀ k l, ∀ e ∈ choose k l, e ∈ l) {beam : List (Entry H R)} {x : Entry H R}
    (hx : x ∈ step o lm sel k choose beam row) :
    ∃ e ∈ beam, (∃ pb pnb, x = { e with pb := pb, pnb := pnb }) ∨
      ∃ c pnb, x = { pre := e.pre ++ [c], last := c, pb := o.zero, pnb := pnb,
                     plm := o.mul e.plm (lm.prob e.h c), h := lm.adv e.h c } := by
  by_cases hS : selected o sel row = []
  · rw [step_of_nil hS] at hx
    obtain ⟨e, he, rfl⟩ := List.mem_map.mp hx
    exact ⟨e, he, Or.inl ⟨_, _, rfl⟩⟩
  · rw [step_of_ne_nil hS] at hx
    obtain ⟨e, he, ⟨c, _, rfl⟩ | rfl⟩ := mem_candidates.mp (List.mem_filter.mp (hs _ _ x hx)).1
    · exact ⟨e, he, Or.inr ⟨c, _, rfl⟩⟩
    · exact ⟨e, he, Or.inl ⟨_, _, rfl⟩⟩

/-- A property of entries that ignores `pb`/`pnb` and survives extension holds along the whole
run. -/
theorem foldl_step_forall {lm : LM H R} {k : Nat} {choose : Nat → List (Entry H R) → List (Entry H R)}
    (hs : ∀ k l, ∀ e ∈ choose k l, e ∈ l) {P : Entry H R → Prop}
    (hstay : ∀ e pb pnb, P e → P { e with pb := pb, pnb := pnb })
    (hext : ∀ e c pnb, P e → P { pre := e.pre ++ [c], last := c, pb := o.zero, pnb := pnb,
                                 plm := o.mul e.plm (lm.prob e.h c), h := lm.adv e.h c })
    (M : List (List R)) {beam : List (Entry H R)} (hb : ∀ e ∈ beam, P e) :
    ∀ e ∈ M.foldl (step o lm sel k choose) beam, P e :=
  List.foldlRecOn (motive := fun beam => ∀ e ∈ beam, P e) M _ hb fun beam hb row _ x hx => by
    obtain ⟨e, he, ⟨pb, pnb, rfl⟩ | ⟨c, pnb, rfl⟩⟩ := mem_step_cases hs hx
    · exact hstay e pb pnb (hb e he)
    · exact hext e c pnb (hb e he)

end PB
