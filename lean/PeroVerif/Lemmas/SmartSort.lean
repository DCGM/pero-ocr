/- Lemmas for the two reading-order sorters (C12): `couple` partitions, `divide` never runs out of fuel and only
permutes, more fuel changes nothing; the naive order is a permutation. -/
import PeroVerif.Model.SmartSort
import PeroVerif.Lemmas.ListAux

namespace SS

theorem perm_flatMap_congr {α β : Type} {l : List α} {f g : α → List β}
    (h : ∀ a ∈ l, (f a).Perm (g a)) : (l.flatMap f).Perm (l.flatMap g) := by
  induction l with
  | nil => simp
  | cons a l ih =>
    simp only [List.flatMap_cons]
    exact List.Perm.append (h a (by simp)) (ih fun b hb => h b (by simp [hb]))

theorem sortBy_perm {α : Type} (key : α → Int) (l : List α) : (sortBy key l).Perm l :=
  List.mergeSort_perm _ _

/-- `mapM` over `Option` succeeds when every call does; results are tagged with their argument. -/
theorem mapM_option_pair {α γ : Type} (Q : α → γ → Prop) (f : α → Option (α × γ)) (l : List α)
    (h : ∀ a ∈ l, ∃ o, f a = some (a, o) ∧ Q a o) :
    ∃ res, l.mapM f = some res ∧ res.map (·.1) = l ∧ ∀ p ∈ res, Q p.1 p.2 := by
  induction l with
  | nil => exact ⟨[], rfl, rfl, by simp⟩
  | cons a l ih =>
    obtain ⟨b, hb, hP⟩ := h a (by simp)
    obtain ⟨bs, hbs, hm, hF⟩ := ih fun x hx => h x (by simp [hx])
    refine ⟨(a, b) :: bs, ?_, by simp [hm], ?_⟩
    · simp [List.mapM_cons, hb, hbs]
    · intro p hp
      simp only [List.mem_cons] at hp
      rcases hp with rfl | hp
      · exact hP
      · exact hF p hp

theorem mapM_option_mono {α β : Type} {f g : α → Option β} {l : List α}
    (h : ∀ a ∈ l, ∀ b, f a = some b → g a = some b) {res : List β} (hf : l.mapM f = some res) :
    l.mapM g = some res := by
  rw [ListAux.mapM_option_eq_some] at hf ⊢
  rw [← hf]
  refine List.map_congr_left fun a ha => ?_
  obtain ⟨b, -, hb⟩ := List.mem_map.mp (hf ▸ List.mem_map_of_mem (f := f) ha)
  rw [← hb, h a ha b hb.symm]

/-! ### the sorts as insertion sorts (so that the kernel can evaluate the sorters on test vectors) -/

theorem sortBy_eq {α : Type} (key : α → Int) (l : List α) :
    sortBy key l = l.foldr (ListAux.insertLe fun a b => decide (key a ≤ key b)) [] :=
  ListAux.mergeSort_eq_foldr_insertLe _ (fun _ _ _ => by simpa using Int.le_trans)
    (fun a b => by simpa using Int.le_total (key a) (key b)) l

theorem uniq_eq (labels : List Nat) :
    uniq labels = (labels.foldr (ListAux.insertLe fun a b => decide (a ≤ b)) []).eraseDups :=
  congrArg _ (ListAux.mergeSort_eq_foldr_insertLe _ (fun _ _ _ => by simpa using Nat.le_trans)
    (fun a b => by simpa using Nat.le_total a b) labels)

theorem pickFirst_perm (num den : Nat) (vertical : Bool) (g : Group) :
    ∀ (non : List Box) (x : Box) (rest : List Box),
      pickFirst num den vertical g non = some (x, rest) → (x :: rest).Perm non := by
  intro non
  induction non with
  | nil => intro x rest h; simp [pickFirst] at h
  | cons y ys ih =>
    intro x rest h
    simp only [pickFirst] at h
    split at h
    · simp only [Option.some.injEq, Prod.mk.injEq] at h
      obtain ⟨rfl, rfl⟩ := h
      exact List.Perm.refl _
    · cases hp : pickFirst num den vertical g ys with
      | none => simp [hp] at h
      | some p =>
        obtain ⟨z, r⟩ := p
        simp only [hp, Option.map_some, Option.some.injEq, Prod.mk.injEq] at h
        obtain ⟨rfl, rfl⟩ := h
        exact (List.Perm.swap y z r).trans ((ih z r hp).cons y)

/-- `grow` only appends to the group; what it appends and what it leaves make up the input. -/
theorem grow_spec (num den : Nat) (vertical : Bool) (fuel : Nat) (g : Group) (non : List Box) :
    ∃ added, (grow num den vertical fuel g non).1.members = g.members ++ added ∧
      (added ++ (grow num den vertical fuel g non).2).Perm non := by
  induction fuel generalizing g non with
  | zero => exact ⟨[], by simp [grow]⟩
  | succ fuel ih =>
    simp only [grow]
    cases hp : pickFirst num den vertical g non with
    | none => exact ⟨[], by simp⟩
    | some p =>
      obtain ⟨added, h1, h2⟩ := ih ⟨g.members ++ [p.1], g.bbox.addBox p.1⟩ p.2
      exact ⟨p.1 :: added, by simp [h1], (h2.cons p.1).trans (pickFirst_perm num den vertical g non _ _ hp)⟩

theorem couple_cons (num den : Nat) (vertical : Bool) (fuel : Nat) (x : Box) (non : List Box) :
    couple num den vertical (fuel + 1) (x :: non) =
      (grow num den vertical (non.length + 1) ⟨[x], BBox.init.addBox x⟩ non).1 ::
        couple num den vertical fuel
          (grow num den vertical (non.length + 1) ⟨[x], BBox.init.addBox x⟩ non).2 := rfl

theorem couple_partition_gen (num den : Nat) (vertical : Bool) :
    ∀ (fuel : Nat) (bs : List Box), bs.length ≤ fuel →
      ((couple num den vertical fuel bs).flatMap (·.members)).Perm bs ∧
      ∀ g ∈ couple num den vertical fuel bs, g.members ≠ [] := by
  intro fuel
  induction fuel with
  | zero =>
    intro bs h
    cases List.length_eq_zero_iff.mp (Nat.le_zero.mp h)
    simp [couple]
  | succ fuel ih =>
    intro bs h
    cases bs with
    | nil => simp [couple]
    | cons x non =>
      rw [couple_cons]
      obtain ⟨added, h1, h2⟩ := grow_spec num den vertical (non.length + 1) ⟨[x], BBox.init.addBox x⟩ non
      generalize grow num den vertical (non.length + 1) ⟨[x], BBox.init.addBox x⟩ non = gr at h1 h2 ⊢
      have hl := h2.length_eq
      rw [List.length_append] at hl
      obtain ⟨ih1, ih2⟩ := ih gr.2 (by simp only [List.length_cons] at h; omega)
      simp only [List.flatMap_cons, List.mem_cons, forall_eq_or_imp, h1]
      exact ⟨((List.Perm.append_left _ ih1).trans (by simpa using h2)), by simp, ih2⟩

theorem decoupleOrder_perm (bs : List Box) : (decoupleOrder bs).Perm bs := by
  unfold decoupleOrder
  simp only
  split <;> exact sortBy_perm _ _

/-- the groups `divide` recurses into (after the "did not split" replacement) -/
def divGroups (num den : Nat) (bs : List Box) (vertical hasParent : Bool) : List Group :=
  let groups := couple num den vertical bs.length bs
  if groups.length = 1 ∧ hasParent then
    (decoupleOrder ((groups.head?.map (·.members)).getD [])).map fun x => (⟨[x], BBox.init.addBox x⟩ : Group)
  else groups

/-- one recursive call of `divide` -/
def divStep (num den fuel : Nat) (vertical : Bool) (g : Group) : Option (Group × List Box) :=
  (if g.members.length > 1 then divide num den fuel g.members (!vertical) true else some g.members).map
    fun o => (g, o)

def divKey (vertical : Bool) (p : Group × List Box) : Int :=
  if vertical then p.1.bbox.xmin else p.1.bbox.ymin

theorem divide_succ (num den fuel : Nat) (bs : List Box) (vertical hasParent : Bool) :
    divide num den (fuel + 1) bs vertical hasParent =
      if bs.length ≤ 1 then some bs else
      match (divGroups num den bs vertical hasParent).mapM (divStep num den fuel vertical) with
      | none => none
      | some res => some ((sortBy (divKey vertical) res).flatMap (·.2)) := rfl

/-- non-empty groups: a group misses at least one element for every other group -/
theorem length_add_length_le {gs : List Group} (hne : ∀ g ∈ gs, g.members ≠ []) :
    gs.length ≤ (gs.flatMap (·.members)).length ∧
    ∀ g ∈ gs, g.members.length + gs.length ≤ (gs.flatMap (·.members)).length + 1 := by
  induction gs with
  | nil => simp
  | cons a t ih =>
    obtain ⟨ih1, ih2⟩ := ih fun g hg => hne g (List.mem_cons_of_mem _ hg)
    have := List.length_pos_iff.mpr (hne a List.mem_cons_self)
    simp only [List.flatMap_cons, List.length_append, List.length_cons, List.mem_cons, forall_eq_or_imp]
    exact ⟨by omega, by omega, fun g hg => by have := ih2 g hg; omega⟩

theorem divGroups_spec (num den : Nat) (bs : List Box) (vertical hasParent : Bool) :
    ((divGroups num den bs vertical hasParent).flatMap (·.members)).Perm bs ∧
    ∀ g ∈ divGroups num den bs vertical hasParent, 1 < g.members.length →
      g.members.length + (if hasParent then 1 else 0) ≤ bs.length := by
  obtain ⟨hperm, hne⟩ := couple_partition_gen num den vertical bs.length bs (Nat.le_refl _)
  unfold divGroups
  generalize couple num den vertical bs.length bs = groups at hperm hne
  dsimp only
  split
  · rename_i hc
    obtain ⟨g, rfl⟩ := List.length_eq_one_iff.mp hc.1
    rw [List.flatMap_singleton, ] at hperm
    refine ⟨?_, fun g' hg' => ?_⟩
    · simp only [List.head?_cons, Option.map_some, Option.getD_some, List.flatMap_map]
      rw [List.flatMap_singleton']
      exact (decoupleOrder_perm _).trans hperm
    · obtain ⟨x, _, rfl⟩ := List.mem_map.mp hg'
      exact fun h => absurd h (Nat.lt_irrefl 1)
  · rename_i hc
    refine ⟨hperm, fun g hg _ => ?_⟩
    have := (length_add_length_le hne).2 g hg
    have := List.length_pos_of_mem hg
    have := hperm.length_eq
    cases hasParent
    · simp only [Bool.false_eq_true, if_false]; omega
    · have : groups.length ≠ 1 := fun h => hc ⟨h, rfl⟩
      simp only [if_true]; omega

theorem divide_total (num den : Nat) :
    ∀ (fuel : Nat) (bs : List Box) (vertical hasParent : Bool),
      bs.length + (if hasParent then 1 else 2) ≤ fuel →
      ∃ out, divide num den fuel bs vertical hasParent = some out ∧ out.Perm bs := by
  intro fuel
  induction fuel with
  | zero =>
    intro bs v hp h
    cases hp <;> simp at h
  | succ fuel ih =>
    intro bs v hp h
    rw [divide_succ]
    by_cases hs : bs.length ≤ 1
    · exact ⟨bs, by simp [hs], List.Perm.refl _⟩
    · simp only [hs, if_false]
      obtain ⟨hperm, hsz⟩ := divGroups_spec num den bs v hp
      have hall : ∀ g ∈ divGroups num den bs v hp,
          ∃ o, divStep num den fuel v g = some (g, o) ∧ o.Perm g.members := by
        intro g hg
        unfold divStep
        by_cases h1 : g.members.length > 1
        · have hb := hsz g hg h1
          obtain ⟨o, ho, hop⟩ := ih g.members (!v) true (by
            simp only [if_true]
            cases hp <;> simp at h hb <;> omega)
          exact ⟨o, by simp [h1, ho], hop⟩
        · exact ⟨g.members, by simp [h1], List.Perm.refl _⟩
      obtain ⟨res, hres, hmap, hQ⟩ :=
        mapM_option_pair (fun (g : Group) (o : List Box) => o.Perm g.members) _ _ hall
      rw [hres]
      refine ⟨_, rfl, ?_⟩
      refine ((sortBy_perm _ res).flatMap_right _).trans ?_
      refine (perm_flatMap_congr (g := fun p => p.1.members) fun p hp => hQ p hp).trans ?_
      have : res.flatMap (fun p => p.1.members) = (res.map (·.1)).flatMap (·.members) := by
        rw [List.flatMap_map]
      rw [this, hmap]
      exact hperm

theorem divide_mono (num den : Nat) {fuel : Nat} {bs : List Box} {vertical hasParent : Bool} {out : List Box}
    (h : divide num den fuel bs vertical hasParent = some out) :
    divide num den (fuel + 1) bs vertical hasParent = some out := by
  induction fuel generalizing bs vertical hasParent out with
  | zero => cases h
  | succ fuel ih =>
    rw [divide_succ] at h ⊢
    by_cases hs : bs.length ≤ 1
    · rwa [if_pos hs] at h ⊢
    · rw [if_neg hs] at h ⊢
      cases hm : (divGroups num den bs vertical hasParent).mapM (divStep num den fuel vertical) with
      | none => simp [hm] at h
      | some res =>
        rw [hm] at h
        rwa [mapM_option_mono (fun g _ p hp => ?_) hm]
        unfold divStep at hp ⊢
        by_cases hg : g.members.length > 1
        · rw [if_pos hg] at hp ⊢
          obtain ⟨o, ho, rfl⟩ := Option.map_eq_some_iff.mp hp
          rw [ih ho]; rfl
        · rwa [if_neg hg] at hp ⊢

theorem divide_mono_le (num den : Nat) {f f' : Nat} (hf : f ≤ f') {bs : List Box} {vertical hasParent : Bool}
    {out : List Box} (h : divide num den f bs vertical hasParent = some out) :
    divide num den f' bs vertical hasParent = some out := by
  induction hf with
  | refl => exact h
  | step _ ih => exact divide_mono num den ih

theorem nodup_eraseDups : ∀ (n : Nat) (l : List Nat), l.length ≤ n → l.eraseDups.Nodup := by
  intro n
  induction n with
  | zero =>
    intro l h
    have : l = [] := List.length_eq_zero_iff.mp (by omega)
    subst this
    simp
  | succ n ih =>
    intro l h
    cases l with
    | nil => simp
    | cons a as =>
      rw [List.eraseDups_cons, List.nodup_cons]
      refine ⟨?_, ih _ ?_⟩
      · rw [List.mem_eraseDups]
        simp
      · have := List.length_filter_le (fun b => !b == a) as
        simp only [List.length_cons] at h
        omega

theorem mem_uniq {labels : List Nat} {c : Nat} : c ∈ uniq labels ↔ c ∈ labels := by
  unfold uniq
  rw [List.mem_eraseDups, List.mem_mergeSort]

theorem nodup_uniq (labels : List Nat) : (uniq labels).Nodup :=
  nodup_eraseDups _ _ (Nat.le_refl _)

/-- the fibres of `f` over a duplicate-free list of values covering `f '' l` partition `l` -/
theorem flatMap_filter_perm {α : Type} (f : α → Nat) :
    ∀ (cs : List Nat) (l : List α), cs.Nodup → (∀ x ∈ l, f x ∈ cs) →
      (cs.flatMap fun c => l.filter fun x => f x = c).Perm l := by
  intro cs
  induction cs with
  | nil =>
    intro l _ h
    cases l with
    | nil => simp
    | cons x t => exact absurd (h x (by simp)) (by simp)
  | cons c cs ih =>
    intro l hnd h
    rw [List.nodup_cons] at hnd
    obtain ⟨hc, hnd⟩ := hnd
    simp only [List.flatMap_cons]
    refine List.Perm.trans ?_ (List.filter_append_perm (fun x => f x = c) l)
    refine List.Perm.append_left _ ?_
    have h' : ∀ x ∈ l.filter (fun x => !decide (f x = c)), f x ∈ cs := by
      intro x hx
      simp only [List.mem_filter, Bool.not_eq_true', decide_eq_false_iff_not] at hx
      have := h x hx.1
      simp only [List.mem_cons] at this
      rcases this with e | e
      · exact absurd e hx.2
      · exact e
    refine List.Perm.trans ?_ (ih _ hnd h')
    apply perm_flatMap_congr
    intro c' hc'
    refine List.Perm.of_eq ?_
    rw [List.filter_filter]
    apply List.filter_congr
    intro x _
    have hne : c' ≠ c := fun e => hc (e ▸ hc')
    by_cases e : f x = c'
    · simp [e, hne]
    · simp [e]

theorem naive_perm (keys : List Int) (labels : List Nat)
    (hlab : ∀ c ∈ labels, c < (uniq labels).length) :
    ∃ o, naiveOrder keys labels = some o ∧ o.Perm (List.range labels.length) := by
  unfold naiveOrder
  simp only
  have hall : ∀ c ∈ uniq labels,
      ∃ o, (((uniq labels).map (firstIdx labels))[c]?.map fun i => (c, keys.getD i 0)) = some (c, o) ∧ True := by
    intro c hc
    have hlt : c < ((uniq labels).map (firstIdx labels)).length := by
      rw [List.length_map]; exact hlab c (mem_uniq.mp hc)
    rw [List.getElem?_eq_getElem hlt]
    exact ⟨_, rfl, trivial⟩
  obtain ⟨cks, hcks, hmap, _⟩ := mapM_option_pair (fun (_ : Nat) (_ : Int) => True) _ _ hall
  rw [hcks]
  refine ⟨_, rfl, ?_⟩
  have hp : ((sortBy (·.2) cks).map (·.1)).Perm (uniq labels) := by
    rw [← hmap]
    exact (sortBy_perm _ cks).map _
  refine (hp.flatMap_right _).trans ?_
  refine (perm_flatMap_congr (g := fun c => (List.range labels.length).filter fun i => labels.getD i 0 = c)
    fun c _ => sortBy_perm _ _).trans ?_
  apply flatMap_filter_perm (fun i => labels.getD i 0) _ _ (nodup_uniq labels)
  intro i hi
  rw [List.mem_range] at hi
  rw [mem_uniq, List.getD_eq_getElem?_getD, List.getElem?_eq_getElem hi]
  simp

end SS
