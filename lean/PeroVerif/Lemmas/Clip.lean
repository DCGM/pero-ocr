/- Helper lemmas for the rectangle-clipping model (C11). -/
import PeroVerif.Model.Clip
import Mathlib.Algebra.Order.Field.Basic
import Mathlib.Algebra.Order.Field.Rat

namespace Clip

/-- membership of a parameter in an interval state -/
def Mem : Option (Rat × Rat) → Rat → Prop
  | none, _ => False
  | some (a, b), t => a ≤ t ∧ t ≤ b

/-- a state is never an empty interval `some (a, b)` with `b < a`: `clipEdge` answers `none` instead -/
def Ok : Option (Rat × Rat) → Prop
  | none => True
  | some (a, b) => a ≤ b

/-- `clipEdge` intersects the interval with the half-line `den * t ≤ num`, and answers `none` rather than an
empty interval. -/
theorem clipEdge_spec (num den : Rat) (st : Option (Rat × Rat)) :
    (Ok st → Ok (clipEdge num den st)) ∧ ∀ t, Mem (clipEdge num den st) t ↔ Mem st t ∧ den * t ≤ num := by
  rcases st with _ | ⟨a, b⟩
  · exact ⟨id, fun _ => ⟨False.elim, And.left⟩⟩
  unfold clipEdge
  rcases lt_trichotomy den 0 with hd | rfl | hd
  · simp only [if_neg hd.ne, if_pos hd, ← div_le_iff_of_neg' hd]
    split
    · exact ⟨fun _ => trivial, fun t => ⟨False.elim, fun h => absurd (h.2.trans h.1.2) (not_le.2 ‹_›)⟩⟩
    · exact ⟨fun h => max_le h (not_lt.1 ‹_›), fun t =>
        ⟨fun h => ⟨⟨(le_max_left _ _).trans h.1, h.2⟩, (le_max_right _ _).trans h.1⟩,
        fun h => ⟨max_le h.1.1 h.2, h.1.2⟩⟩⟩
  · simp only [if_pos, zero_mul]
    split
    · exact ⟨fun _ => trivial, fun t => ⟨False.elim, fun h => absurd h.2 (not_le.2 ‹_›)⟩⟩
    · exact ⟨id, fun t => ⟨fun h => ⟨h, not_lt.1 ‹_›⟩, And.left⟩⟩
  · simp only [if_neg hd.ne', if_neg hd.not_gt, ← le_div_iff₀' hd]
    split
    · exact ⟨fun _ => trivial, fun t => ⟨False.elim, fun h => absurd (h.1.1.trans h.2) (not_le.2 ‹_›)⟩⟩
    · exact ⟨fun h => le_min h (not_lt.1 ‹_›), fun t =>
        ⟨fun h => ⟨⟨h.1, h.2.trans (min_le_left _ _)⟩, h.2.trans (min_le_right _ _)⟩,
        fun h => ⟨h.1.1, le_min h.1.2 h.2⟩⟩⟩

theorem lerp_zero (p q : Pt) : lerp p q 0 = p := by
  unfold lerp
  ext <;> simp

theorem lerp_one (p q : Pt) : lerp p q 1 = q := by
  unfold lerp
  ext <;> simp

theorem clipSeg_ok (r : Rect) (p q : Pt) : Ok (clipSeg r p q) :=
  (clipEdge_spec _ _ _).1 <| (clipEdge_spec _ _ _).1 <| (clipEdge_spec _ _ _).1 <| (clipEdge_spec _ _ _).1 <|
    show (0 : Rat) ≤ 1 by decide

theorem edge_lo (lo p d t : Rat) : -d * t ≤ p - lo ↔ lo ≤ p + t * d := by
  rw [neg_mul, neg_le_sub_iff_le_add, mul_comm]

theorem edge_hi (hi p d t : Rat) : d * t ≤ hi - p ↔ p + t * d ≤ hi := by
  rw [le_sub_iff_add_le', mul_comm]

/-- the clipped interval is exactly the set of parameters in `[0, 1]` whose point lies in the rectangle -/
theorem clipSeg_mem (r : Rect) (p q : Pt) (t : Rat) :
    Mem (clipSeg r p q) t ↔ (0 ≤ t ∧ t ≤ 1) ∧ inRect r (lerp p q t) := by
  unfold clipSeg
  rw [(clipEdge_spec _ _ _).2, (clipEdge_spec _ _ _).2, (clipEdge_spec _ _ _).2, (clipEdge_spec _ _ _).2,
    edge_lo, edge_hi, edge_lo, edge_hi, and_assoc, and_assoc, and_assoc]
  rfl

theorem clipSeg_some {r : Rect} {p q : Pt} {t0 t1 : Rat} (h : clipSeg r p q = some (t0, t1)) (t : Rat) :
    t0 ≤ t ∧ t ≤ t1 ↔ (0 ≤ t ∧ t ≤ 1) ∧ inRect r (lerp p q t) := by
  rw [← clipSeg_mem, h]; rfl

/-- the clipped interval lies in `[0, 1]`, is not empty, and both its ends are in the rectangle -/
theorem clipSeg_ends (r : Rect) (p q : Pt) (t0 t1 : Rat) (h : clipSeg r p q = some (t0, t1)) :
    (0 ≤ t0 ∧ t0 ≤ t1 ∧ t1 ≤ 1) ∧ inRect r (lerp p q t0) ∧ inRect r (lerp p q t1) := by
  have h01 : t0 ≤ t1 := by have := clipSeg_ok r p q; rwa [h] at this
  have a := (clipSeg_some h t0).1 ⟨le_rfl, h01⟩
  have b := (clipSeg_some h t1).1 ⟨h01, le_rfl⟩
  exact ⟨⟨a.1.1, h01, b.1.2⟩, a.2, b.2⟩

/-- By exactness: if both ends are inside, the interval contains 0 and 1, so it is `[0, 1]`. -/
theorem clipSeg_inside (r : Rect) (p q : Pt) (hp : inRect r p) (hq : inRect r q) :
    clipSeg r p q = some (0, 1) := by
  have h0 : Mem (clipSeg r p q) 0 := (clipSeg_mem r p q 0).2 ⟨⟨le_rfl, zero_le_one⟩, (lerp_zero p q).symm ▸ hp⟩
  have h1 : Mem (clipSeg r p q) 1 := (clipSeg_mem r p q 1).2 ⟨⟨zero_le_one, le_rfl⟩, (lerp_one p q).symm ▸ hq⟩
  rcases h : clipSeg r p q with _ | ⟨a, b⟩
  · rw [h] at h0; exact h0.elim
  · obtain ⟨⟨ha, _, hb⟩, _⟩ := clipSeg_ends r p q a b h
    rw [h] at h0 h1
    rw [le_antisymm h0.1 ha, le_antisymm hb h1.2]

/-- a predicate on all consecutive segments of `p :: rest` -/
def SegAll (F : Pt → Pt → Prop) : Pt → List Pt → Prop
  | _, [] => True
  | p, q :: rest => F p q ∧ SegAll F q rest

theorem segAll_of_getElem (F : Pt → Pt → Prop) : ∀ (rest : List Pt) (p : Pt),
    (∀ (i : Nat) (a b : Pt), (p :: rest)[i]? = some a → (p :: rest)[i + 1]? = some b → F a b) →
    SegAll F p rest := by
  intro rest
  induction rest with
  | nil => intro p _; trivial
  | cons q rest ih =>
    intro p h
    refine ⟨h 0 p q rfl rfl, ih q ?_⟩
    intro i a b ha hb
    exact h (i + 1) a b ha hb

theorem segAll_of_mem (F : Pt → Pt → Prop) (rest : List Pt) (p : Pt)
    (h : ∀ a ∈ p :: rest, ∀ b ∈ p :: rest, F a b) : SegAll F p rest :=
  segAll_of_getElem F rest p fun _ a b ha hb => h a (List.mem_of_getElem? ha) b (List.mem_of_getElem? hb)

def nextCur (p q : Pt) (t0 t1 : Rat) (cur : List Pt) : List Pt :=
  if t0 = 0 ∧ cur ≠ [] then lerp p q t1 :: cur else [lerp p q t1, lerp p q t0]

def nextAcc (t0 : Rat) (cur : List Pt) (acc : List (List Pt)) : List (List Pt) :=
  if t0 = 0 ∧ cur ≠ [] then acc else flush cur acc

theorem clipGo_nil (r : Rect) (p : Pt) (cur : List Pt) (acc : List (List Pt)) :
    clipGo r p [] cur acc = (flush cur acc).reverse := by
  simp only [clipGo]

theorem clipGo_cons_none (r : Rect) (p q : Pt) (rest cur : List Pt) (acc : List (List Pt))
    (h : clipSeg r p q = none) :
    clipGo r p (q :: rest) cur acc = clipGo r q rest [] (flush cur acc) := by
  simp only [clipGo, h]

theorem clipGo_cons_some (r : Rect) (p q : Pt) (rest cur : List Pt) (acc : List (List Pt)) (t0 t1 : Rat)
    (h : clipSeg r p q = some (t0, t1)) :
    clipGo r p (q :: rest) cur acc =
      if t1 = 1 then clipGo r q rest (nextCur p q t0 t1 cur) (nextAcc t0 cur acc)
      else clipGo r q rest [] (flush (nextCur p q t0 t1 cur) (nextAcc t0 cur acc)) := by
  simp only [clipGo, h, nextCur, nextAcc]

theorem flush_forall (Q : List Pt → Prop) (cur : List Pt) (acc : List (List Pt))
    (hacc : ∀ piece ∈ acc, Q piece) (hcur : cur ≠ [] → Q cur.reverse) :
    ∀ piece ∈ flush cur acc, Q piece := by
  unfold flush
  split_ifs with h
  · exact hacc
  · intro piece hp
    rcases List.mem_cons.1 hp with rfl | hp
    · exact hcur h
    · exact hacc piece hp

/-- generic invariant of the walk: `C` holds for the piece being built, `Q` for the closed pieces -/
theorem clipGo_inv (r : Rect) (F : Pt → Pt → Prop) (C Q : List Pt → Prop)
    (hnil : C [])
    (hflush : ∀ cur, C cur → cur ≠ [] → Q cur.reverse)
    (hnew : ∀ p q t0 t1, clipSeg r p q = some (t0, t1) → F p q → C [lerp p q t1, lerp p q t0])
    (hext : ∀ p q t0 t1 cur, clipSeg r p q = some (t0, t1) → F p q → C cur → cur ≠ [] →
      C (lerp p q t1 :: cur)) :
    ∀ (rest : List Pt) (p : Pt) (cur : List Pt) (acc : List (List Pt)),
      SegAll F p rest → C cur → (∀ piece ∈ acc, Q piece) →
      ∀ piece ∈ clipGo r p rest cur acc, Q piece := by
  intro rest
  induction rest with
  | nil =>
    intro p cur acc _ hcur hacc piece hp
    rw [clipGo_nil, List.mem_reverse] at hp
    exact flush_forall Q cur acc hacc (hflush cur hcur) piece hp
  | cons q rest ih =>
    intro p cur acc hseg hcur hacc
    obtain ⟨hF, hseg'⟩ := hseg
    cases hc : clipSeg r p q with
    | none =>
      rw [clipGo_cons_none r p q rest cur acc hc]
      exact ih q [] _ hseg' hnil (flush_forall Q cur acc hacc (hflush cur hcur))
    | some tt =>
      obtain ⟨t0, t1⟩ := tt
      rw [clipGo_cons_some r p q rest cur acc t0 t1 hc]
      have hcur' : C (nextCur p q t0 t1 cur) := by
        unfold nextCur
        split_ifs with h
        · exact hext p q t0 t1 cur hc hF hcur h.2
        · exact hnew p q t0 t1 hc hF
      have hacc' : ∀ piece ∈ nextAcc t0 cur acc, Q piece := by
        unfold nextAcc
        split_ifs with h
        · exact hacc
        · exact flush_forall Q cur acc hacc (hflush cur hcur)
      split_ifs with h1
      · exact ih q _ _ hseg' hcur' hacc'
      · exact ih q [] _ hseg' hnil (flush_forall Q _ _ hacc' (hflush _ hcur'))

/-- vertex invariant: every vertex of every piece satisfies `V`, provided every point of the baseline that lies in
the rectangle does -/
theorem clipGo_vertices (r : Rect) (V : Pt → Prop) (p : Pt) (rest : List Pt)
    (hseg : SegAll (fun p q => ∀ t, 0 ≤ t → t ≤ 1 → inRect r (lerp p q t) → V (lerp p q t)) p rest) :
    ∀ piece ∈ clipGo r p rest [] [], ∀ v ∈ piece, V v := by
  refine clipGo_inv r _ (fun cur => ∀ v ∈ cur, V v) (fun piece => ∀ v ∈ piece, V v)
    ?_ ?_ ?_ ?_ rest p [] [] hseg ?_ ?_
  · intro v hv; cases hv
  · intro cur hcur _ v hv
    exact hcur v (List.mem_reverse.1 hv)
  · intro p q t0 t1 hc hF v hv
    obtain ⟨⟨h0, h01, h1⟩, ha, hb⟩ := clipSeg_ends r p q t0 t1 hc
    simp only [List.mem_cons, List.not_mem_nil, or_false] at hv
    rcases hv with rfl | rfl
    · exact hF t1 (le_trans h0 h01) h1 hb
    · exact hF t0 h0 (le_trans h01 h1) ha
  · intro p q t0 t1 cur hc hF hcur _ v hv
    obtain ⟨⟨h0, h01, h1⟩, ha, hb⟩ := clipSeg_ends r p q t0 t1 hc
    rcases List.mem_cons.1 hv with rfl | hv
    · exact hF t1 (le_trans h0 h01) h1 hb
    · exact hcur v hv
  · intro v hv; cases hv
  · intro piece hp; cases hp

theorem clipGo_length (r : Rect) (p : Pt) (rest : List Pt) :
    ∀ piece ∈ clipGo r p rest [] [], 2 ≤ piece.length := by
  refine clipGo_inv r (fun _ _ => True) (fun cur => cur = [] ∨ 2 ≤ cur.length) (fun piece => 2 ≤ piece.length)
    ?_ ?_ ?_ ?_ rest p [] [] ?_ ?_ ?_
  · exact Or.inl rfl
  · intro cur hcur hne
    rcases hcur with h | h
    · exact absurd h hne
    · simpa using h
  · intro p q t0 t1 _ _
    exact Or.inr (le_refl _)
  · intro p q t0 t1 cur _ _ hcur hne
    rcases hcur with h | h
    · exact absurd h hne
    · right; simp only [List.length_cons]; omega
  · exact segAll_of_mem _ rest p (fun _ _ _ _ => trivial)
  · exact Or.inl rfl
  · intro piece hp; cases hp

theorem flush_nil (acc : List (List Pt)) : flush [] acc = acc := by
  simp [flush]

theorem flush_ne (cur : List Pt) (acc : List (List Pt)) (h : cur ≠ []) : flush cur acc = cur.reverse :: acc := by
  simp [flush, h]

/-- every segment is wholly inside: the current piece is simply extended -/
theorem clipGo_all (r : Rect) : ∀ (rest : List Pt) (p : Pt) (cur : List Pt) (acc : List (List Pt)),
    SegAll (fun p q => clipSeg r p q = some (0, 1)) p rest → cur ≠ [] →
    clipGo r p rest cur acc = ((cur.reverse ++ rest) :: acc).reverse := by
  intro rest
  induction rest with
  | nil =>
    intro p cur acc _ hne
    rw [clipGo_nil, flush_ne cur acc hne, List.append_nil]
  | cons q rest ih =>
    intro p cur acc h hne
    rw [clipGo_cons_some r p q rest cur acc 0 1 h.1, if_pos rfl]
    have h1 : nextCur p q 0 1 cur = q :: cur := by
      unfold nextCur
      rw [if_pos ⟨rfl, hne⟩, lerp_one]
    have h2 : nextAcc 0 cur acc = acc := by
      unfold nextAcc
      rw [if_pos ⟨rfl, hne⟩]
    rw [h1, h2, ih q (q :: cur) acc h.2 (List.cons_ne_nil _ _)]
    simp

theorem clipPolyline_cons (r : Rect) (p : Pt) (rest : List Pt) :
    clipPolyline r (p :: rest) = clipGo r p rest [] [] := rfl

/-- the pieces of a polyline are those of the walk from its first point; `[]` has none -/
theorem forall_clipPolyline {r : Rect} {pts : List Pt} {Q : List Pt → Prop}
    (h : ∀ p rest, pts = p :: rest → ∀ piece ∈ clipGo r p rest [] [], Q piece) :
    ∀ piece ∈ clipPolyline r pts, Q piece := by
  cases pts with
  | nil => intro piece hp; cases hp
  | cons p rest => exact h p rest rfl

end Clip
