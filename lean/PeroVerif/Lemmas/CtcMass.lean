/-
The CTC path sums of Spec/CtcMass: how `massP` behaves when a frame is appended, and from that the
textbook recursions for `massB` / `massNB` (`massB_snoc`, `massNB_snoc`), their base cases and
non-negativity.
-/
import Mathlib.Algebra.BigOperators.Ring.List
import Mathlib.Algebra.Order.Ring.Defs
import Mathlib.Algebra.Order.BigOperators.Group.List
import Mathlib.Algebra.Order.BigOperators.GroupWithZero.List
import PeroVerif.Spec.CtcMass
import PeroVerif.Lemmas.Ctc
import PeroVerif.Lemmas.ListAux

namespace Ctc

/-! ### paths -/

theorem length_of_mem_paths {C T : ℕ} {p : List ℕ} (h : p ∈ paths C T) : p.length = T := by
  induction T generalizing p with
  | zero => simp [paths] at h; simp [h]
  | succ T ih =>
    simp [paths] at h
    obtain ⟨q, hq, s, _, rfl⟩ := h
    simp [ih hq]

theorem lt_of_mem_paths {C T : ℕ} {p : List ℕ} (h : p ∈ paths C T) : ∀ s ∈ p, s < C := by
  induction T generalizing p with
  | zero => simp [paths] at h; simp [h]
  | succ T ih =>
    simp [paths] at h
    obtain ⟨q, hq, s, hs, rfl⟩ := h
    intro x hx
    simp only [List.mem_append, List.mem_singleton] at hx
    rcases hx with hx | rfl
    · exact ih hq x hx
    · exact hs

/-! ### collapse facts -/

/-- symbols of a collapsed path over `C` symbols with blank `C-1` are `< C-1` -/
theorem lt_of_mem_collapse_paths {C T : ℕ} {p : List ℕ} (hp : p ∈ paths C T) {x : ℕ}
    (hx : x ∈ collapse (C - 1) p) : x < C - 1 := by
  have h1 : x < C := lt_of_mem_paths hp x (mem_collapse hx)
  have h2 : x ≠ C - 1 := fun h => blank_not_mem_collapse (C - 1) p (h ▸ hx)
  omega

/-- the collapse of a path ending in a non-blank symbol `s` ends in `s` -/
theorem getLast?_collapse_snoc (blank : ℕ) (p : List ℕ) (s : ℕ) (hs : s ≠ blank) :
    (collapse blank (p ++ [s])).getLast? = some s := by
  induction p using ListAux.snoc_induction with
  | nil => simp [collapse, collapseAux, hs]
  | snoc q t ih =>
    rw [collapse_snoc]
    by_cases h : t = s
    · subst h
      simp only [hs, List.getLast?_append, List.getLast?_singleton, false_or]
      simpa using ih
    · have : ¬ (s = blank ∨ (q ++ [t]).getLast? = some s) := by
        simp [hs, h]
      rw [if_neg this]
      simp

theorem endsBlank_nil (blank : ℕ) : endsBlank blank [] := by simp [endsBlank]

theorem endsBlank_snoc (blank : ℕ) (p : List ℕ) (s : ℕ) : endsBlank blank (p ++ [s]) ↔ s = blank := by
  simp [endsBlank]

/-- a path not ending in blank ends in the last symbol of its collapse -/
theorem getLast?_of_not_endsBlank {blank : ℕ} {p : List ℕ} (h : ¬ endsBlank blank p) :
    ∃ s, s ≠ blank ∧ p.getLast? = some s ∧ (collapse blank p).getLast? = some s := by
  induction p using ListAux.snoc_induction with
  | nil => exact absurd (endsBlank_nil blank) h
  | snoc q t _ =>
    rw [endsBlank_snoc] at h
    exact ⟨t, h, by simp, getLast?_collapse_snoc blank q t h⟩

theorem endsBlank_of_getLast? {blank : ℕ} {p : List ℕ} {s : ℕ} (h : p.getLast? = some s) :
    endsBlank blank p ↔ s = blank := by
  simp [endsBlank, h]

/-! ### path sums -/

section Mass
variable {R : Type} [CommSemiring R]

theorem weight_snoc (M : List (List R)) (r : List R) (p : List ℕ) (s : ℕ) (h : p.length = M.length) :
    weight (M ++ [r]) (p ++ [s]) = weight M p * r.getD s 0 := by
  simp [weight, List.zipWith_append (h := h.symm)]

theorem massP_snoc (C : ℕ) (M : List (List R)) (r : List R) (P : List ℕ → Prop) [DecidablePred P] :
    massP C (M ++ [r]) P =
      ((paths C M.length).map fun p =>
        ((List.range C).map fun s => if P (p ++ [s]) then weight M p * r.getD s 0 else 0).sum).sum := by
  unfold massP
  simp only [List.length_append, List.length_singleton, paths, List.flatMap_def, List.map_flatten,
    List.sum_flatten, List.map_map]
  congr 1
  apply List.map_congr_left
  intro p hp
  simp only [Function.comp]
  congr 1
  rw [List.map_map]
  apply List.map_congr_left
  intro s _
  simp only [Function.comp]
  rw [weight_snoc _ _ _ _ (length_of_mem_paths hp)]

theorem massP_congr {C : ℕ} {M : List (List R)} {P Q : List ℕ → Prop} [DecidablePred P]
    [DecidablePred Q] (h : ∀ p ∈ paths C M.length, P p ↔ Q p) : massP C M P = massP C M Q := by
  unfold massP
  congr 1
  apply List.map_congr_left
  intro p hp
  exact if_congr (h p hp) rfl rfl

theorem massP_eq_zero {C : ℕ} {M : List (List R)} {P : List ℕ → Prop} [DecidablePred P]
    (h : ∀ p ∈ paths C M.length, ¬ P p) : massP C M P = 0 := by
  unfold massP
  apply List.sum_eq_zero
  intro x hx
  simp only [List.mem_map] at hx
  obtain ⟨p, hp, rfl⟩ := hx
  rw [if_neg (h p hp)]

theorem massP_or {C : ℕ} {M : List (List R)} {P Q : List ℕ → Prop} [DecidablePred P]
    [DecidablePred Q] (h : ∀ p ∈ paths C M.length, ¬ (P p ∧ Q p)) :
    massP C M (fun p => P p ∨ Q p) = massP C M P + massP C M Q := by
  unfold massP
  rw [← List.sum_map_add]
  congr 1
  apply List.map_congr_left
  intro p hp
  by_cases hP : P p <;> by_cases hQ : Q p
  · exact absurd ⟨hP, hQ⟩ (h p hp)
  · simp [hP, hQ]
  · simp [hP, hQ]
  · simp [hP, hQ]

/-- In a list without repetitions a sum of terms that vanish off `a` is the term at `a`. -/
theorem sum_map_ite_eq_of_nodup {l : List ℕ} (hl : l.Nodup) (a : ℕ) (F : ℕ → R) :
    (l.map fun c => if c = a then F c else 0).sum = if a ∈ l then F a else 0 := by
  rw [List.sum_map_eq_nsmul_single a _ (fun a' h _ => if_neg h), hl.count, if_pos rfl]
  split <;> simp

theorem massP_snoc_single {C : ℕ} {M : List (List R)} (r : List R) {P Q : List ℕ → Prop}
    [DecidablePred P] [DecidablePred Q] (c : ℕ) (hc : c < C)
    (h : ∀ p ∈ paths C M.length, ∀ s < C, P (p ++ [s]) ↔ (s = c ∧ Q p)) :
    massP C (M ++ [r]) P = massP C M Q * r.getD c 0 := by
  rw [massP_snoc]
  unfold massP
  rw [← List.sum_map_mul_right]
  congr 1
  apply List.map_congr_left
  intro p hp
  -- of the `C` continuations of `p` only the one by `c` counts
  rw [List.map_congr_left
      (g := fun s => if s = c then (if Q p then weight M p * r.getD s 0 else 0) else 0)
      fun s hs => by rw [if_congr (h p hp s (List.mem_range.mp hs)) rfl rfl, ite_and],
    sum_map_ite_eq_of_nodup List.nodup_range, if_pos (List.mem_range.mpr hc), ite_mul, zero_mul]

end Mass

/-! ### pointwise facts used by the recursions -/

theorem b_snoc_iff (blank : ℕ) (ℓ p : List ℕ) (s : ℕ) :
    (collapse blank (p ++ [s]) = ℓ ∧ endsBlank blank (p ++ [s])) ↔
      (s = blank ∧ collapse blank p = ℓ) := by
  rw [endsBlank_snoc, collapse_snoc]
  constructor
  · rintro ⟨h1, rfl⟩
    simpa using h1
  · rintro ⟨rfl, h⟩
    simpa using h

/-- `p` ends in the non-blank symbol `s` iff it does not end in blank and its collapse ends in `s`. -/
theorem getLast?_eq_some_iff {blank s : ℕ} (hs : s ≠ blank) (p : List ℕ) :
    p.getLast? = some s ↔ ¬ endsBlank blank p ∧ (collapse blank p).getLast? = some s := by
  constructor
  · intro h
    have hne : ¬ endsBlank blank p := by rw [endsBlank_of_getLast? h]; exact hs
    obtain ⟨s', _, h2, h3⟩ := getLast?_of_not_endsBlank hne
    exact ⟨hne, by rw [h3, ← h2, h]⟩
  · rintro ⟨hne, h⟩
    obtain ⟨s', _, h2, h3⟩ := getLast?_of_not_endsBlank hne
    rw [h2, ← h3, h]

theorem collapse_snoc_of_ne {blank s : ℕ} (hs : s ≠ blank) (p : List ℕ) :
    collapse blank (p ++ [s]) =
      if p.getLast? = some s then collapse blank p else collapse blank p ++ [s] := by
  rw [collapse_snoc]
  by_cases h : p.getLast? = some s <;> simp [hs, h]

theorem nb_snoc_iff (blank c : ℕ) (hc : c ≠ blank) (ℓ' p : List ℕ) (s : ℕ) :
    (collapse blank (p ++ [s]) = ℓ' ++ [c] ∧ ¬ endsBlank blank (p ++ [s])) ↔
      (s = c ∧ ((collapse blank p = ℓ' ++ [c] ∧ ¬ endsBlank blank p) ∨
        ((collapse blank p = ℓ' ∧ endsBlank blank p) ∨
          (ℓ'.getLast? ≠ some c ∧ collapse blank p = ℓ' ∧ ¬ endsBlank blank p)))) := by
  rw [endsBlank_snoc]
  constructor
  · rintro ⟨h1, hs⟩
    rw [collapse_snoc_of_ne hs] at h1
    split at h1
    · -- `s` repeats the last symbol of `p`: nothing is appended
      rename_i hl
      obtain ⟨hne, hl'⟩ := (getLast?_eq_some_iff hs p).mp hl
      rw [h1] at hl'
      exact ⟨by simpa using hl'.symm, Or.inl ⟨h1, hne⟩⟩
    · rename_i hl
      obtain ⟨h4, h5⟩ := List.append_inj' h1 rfl
      obtain rfl : s = c := by simpa using h5
      refine ⟨rfl, Or.inr ?_⟩
      by_cases he : endsBlank blank p
      · exact Or.inl ⟨h4, he⟩
      · exact Or.inr ⟨fun h6 => hl ((getLast?_eq_some_iff hs p).mpr ⟨he, h4 ▸ h6⟩), h4, he⟩
  · rintro ⟨rfl, h⟩
    refine ⟨?_, hc⟩
    rw [collapse_snoc_of_ne hc]
    rcases h with ⟨h1, hne⟩ | ⟨h1, he⟩ | ⟨h0, h1, hne⟩
    · rw [if_pos ((getLast?_eq_some_iff hc p).mpr ⟨hne, by rw [h1]; simp⟩), h1]
    · rw [if_neg fun h => ((getLast?_eq_some_iff hc p).mp h).1 he, h1]
    · rw [if_neg fun h => h0 (h1 ▸ ((getLast?_eq_some_iff hc p).mp h).2), h1]

section Rec
variable {R : Type} [CommSemiring R]

theorem mass_eq_add (C blank : ℕ) (M : List (List R)) (ℓ : List ℕ) :
    mass C blank M ℓ = massB C blank M ℓ + massNB C blank M ℓ := by
  unfold mass massB massNB
  rw [← massP_or]
  · apply massP_congr
    intro p _
    by_cases h : endsBlank blank p <;> simp [h]
  · intro p _ h
    exact h.2.2 h.1.2

theorem massB_nil_nil (C blank : ℕ) : massB C blank ([] : List (List R)) [] = 1 := by
  simp [massB, massP, paths, weight, collapse, collapseAux, endsBlank]

theorem massB_nil_cons (C blank : ℕ) (a : ℕ) (l : List ℕ) :
    massB C blank ([] : List (List R)) (a :: l) = 0 := by
  simp [massB, massP, paths, collapse, collapseAux]

theorem massNB_nil_left (C blank : ℕ) (ℓ : List ℕ) :
    massNB C blank ([] : List (List R)) ℓ = 0 := by
  simp [massNB, massP, paths, endsBlank]

theorem massNB_nil (C blank : ℕ) (M : List (List R)) : massNB C blank M [] = 0 := by
  unfold massNB
  apply massP_eq_zero
  rintro p _ ⟨h1, h2⟩
  obtain ⟨s, _, _, h3⟩ := getLast?_of_not_endsBlank h2
  rw [h1] at h3
  simp at h3

theorem massB_snoc (C : ℕ) (hC : 0 < C) (M : List (List R)) (r : List R) (ℓ : List ℕ) :
    massB C (C - 1) (M ++ [r]) ℓ =
      (massB C (C - 1) M ℓ + massNB C (C - 1) M ℓ) * r.getD (C - 1) 0 := by
  rw [← mass_eq_add]
  unfold massB mass
  apply massP_snoc_single r (C - 1) (by omega)
  intro p _ s _
  exact b_snoc_iff (C - 1) ℓ p s

theorem massNB_snoc (C : ℕ) (M : List (List R)) (r : List R) (ℓ' : List ℕ) (c : ℕ)
    (hc : c < C - 1) :
    massNB C (C - 1) (M ++ [r]) (ℓ' ++ [c]) =
      massNB C (C - 1) M (ℓ' ++ [c]) * r.getD c 0 +
        (massB C (C - 1) M ℓ' + (if ℓ'.getLast? = some c then 0 else massNB C (C - 1) M ℓ')) *
          r.getD c 0 := by
  rw [← add_mul]
  have h1 := massP_snoc_single (C := C) (M := M) r
    (P := fun p => collapse (C - 1) p = ℓ' ++ [c] ∧ ¬ endsBlank (C - 1) p)
    (Q := fun p => (collapse (C - 1) p = ℓ' ++ [c] ∧ ¬ endsBlank (C - 1) p) ∨
        ((collapse (C - 1) p = ℓ' ∧ endsBlank (C - 1) p) ∨
          (ℓ'.getLast? ≠ some c ∧ collapse (C - 1) p = ℓ' ∧ ¬ endsBlank (C - 1) p)))
    c (by omega) (fun p _ s _ => nb_snoc_iff (C - 1) c (by omega) ℓ' p s)
  unfold massNB massB
  rw [h1]
  congr 1
  rw [massP_or, massP_or]
  · congr 2
    by_cases hl : ℓ'.getLast? = some c
    · rw [if_pos hl]
      apply massP_eq_zero
      intro p _ h
      exact h.1 hl
    · rw [if_neg hl]
      apply massP_congr
      intro p _
      simp [hl]
  · rintro p _ ⟨h1, h2⟩
    exact h2.2.2 h1.2
  · rintro p _ ⟨h1, h2 | h2⟩
    · exact h1.2 h2.2
    · have := h1.1.symm.trans h2.2.1
      simp at this

/-- A transcript containing the blank or a symbol `≥ C` has no mass. -/
theorem massP_collapse_eq_zero (C : ℕ) (M : List (List R)) (ℓ : List ℕ)
    (P : List ℕ → Prop) [DecidablePred P] (h : ∃ x ∈ ℓ, ¬ x < C - 1) :
    massP C M (fun p => collapse (C - 1) p = ℓ ∧ P p) = 0 := by
  apply massP_eq_zero
  rintro p hp ⟨h1, _⟩
  obtain ⟨x, hx, hx'⟩ := h
  rw [← h1] at hx
  exact hx' (lt_of_mem_collapse_paths hp hx)

theorem massNB_eq_zero_of_mem (C : ℕ) (M : List (List R)) (ℓ : List ℕ)
    (h : ∃ x ∈ ℓ, ¬ x < C - 1) : massNB C (C - 1) M ℓ = 0 :=
  massP_collapse_eq_zero C M ℓ _ h

theorem massB_eq_zero_of_mem (C : ℕ) (M : List (List R)) (ℓ : List ℕ)
    (h : ∃ x ∈ ℓ, ¬ x < C - 1) : massB C (C - 1) M ℓ = 0 :=
  massP_collapse_eq_zero C M ℓ _ h

end Rec

/-! ### non-negativity -/

section Order
variable {R : Type} [CommSemiring R] [LinearOrder R] [IsStrictOrderedRing R]

omit [IsStrictOrderedRing R] in
theorem getD_nonneg {row : List R} (h : ∀ x ∈ row, 0 ≤ x) (s : ℕ) : 0 ≤ row.getD s 0 := by
  rw [List.getD_eq_getElem?_getD]
  by_cases hs : s < row.length
  · rw [List.getElem?_eq_getElem hs]
    exact h _ (List.getElem_mem hs)
  · rw [List.getElem?_eq_none (by omega)]
    exact le_refl _

theorem weight_nonneg {M : List (List R)} (h : ∀ row ∈ M, ∀ x ∈ row, 0 ≤ x) (p : List ℕ) :
    0 ≤ weight M p := by
  rw [weight, ← List.map_uncurry_zip_eq_zipWith]
  apply List.prod_nonneg
  intro x hx
  obtain ⟨⟨row, s⟩, hrs, rfl⟩ := List.mem_map.mp hx
  exact getD_nonneg (h row (List.of_mem_zip hrs).1) s

theorem massP_nonneg {C : ℕ} {M : List (List R)} (h : ∀ row ∈ M, ∀ x ∈ row, 0 ≤ x)
    (P : List ℕ → Prop) [DecidablePred P] : 0 ≤ massP C M P := by
  unfold massP
  apply List.sum_nonneg
  intro x hx
  simp only [List.mem_map] at hx
  obtain ⟨p, _, rfl⟩ := hx
  split
  · exact weight_nonneg h p
  · exact le_refl _

theorem massB_nonneg {C blank : ℕ} {M : List (List R)} (h : ∀ row ∈ M, ∀ x ∈ row, 0 ≤ x)
    (ℓ : List ℕ) : 0 ≤ massB C blank M ℓ := massP_nonneg h _

theorem massNB_nonneg {C blank : ℕ} {M : List (List R)} (h : ∀ row ∈ M, ∀ x ∈ row, 0 ≤ x)
    (ℓ : List ℕ) : 0 ≤ massNB C blank M ℓ := massP_nonneg h _

theorem mass_nonneg {C blank : ℕ} {M : List (List R)} (h : ∀ row ∈ M, ∀ x ∈ row, 0 ≤ x)
    (ℓ : List ℕ) : 0 ≤ mass C blank M ℓ := massP_nonneg h _

end Order

end Ctc
