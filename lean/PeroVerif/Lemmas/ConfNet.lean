/-
Lemmas for C14 (confusion networks).

`add_hypothese` walks a Levenshtein path with two pointers. `walk_foldlM` shows once that this fold is a `Walk`: the old
network with one arc bumped per position and fresh positions inserted, the bumped and inserted arcs spelling the
transcript. What the theorems say about `addHyp` is then read off the `Walk`: `Walk.mem` for what holds of every
position, `Walk.keeps` / `Walk.reads_new` for readings. For the paths, `mem_product` and `sum_product` say what the
Cartesian product consists of and what it sums to.
-/
import Mathlib.Algebra.Order.Field.Basic
import Mathlib.Algebra.BigOperators.Ring.List
import Mathlib.Tactic.Ring
import PeroVerif.Model.ConfNet
import PeroVerif.Spec.ConfNet
import PeroVerif.Lemmas.Dict
import PeroVerif.Lemmas.ListAux
import PeroVerif.Lemmas.Lev

namespace CNL
open CN Py

variable {W : Type}

/-- `bump` is one `set`; only the new value depends on whether the arc was there. -/
theorem bump_eq (o : WOps W) (p : Pos W) (k : Arc) (s : W) :
    bump o p k s = Dict.set p k ((Dict.get? p k).elim s (o.add · s)) := by
  unfold bump; split <;> simp only [*, Option.elim]

theorem mem_keys_bump (o : WOps W) (p : Pos W) (k : Arc) (s : W) (a : Arc) :
    a ∈ Dict.keys (bump o p k s) ↔ a ∈ Dict.keys p ∨ a = k :=
  bump_eq o p k s ▸ Dict.mem_keys_set ..

theorem get?_bump_ne (o : WOps W) (p : Pos W) (k k' : Arc) (s : W) (h : k' ≠ k) :
    Dict.get? (bump o p k s) k' = Dict.get? p k' := by
  rw [bump_eq, Dict.get?_set_ne _ _ _ _ h.symm]

theorem ne_nil_of_mem_keys {p : Pos W} {a : Arc} (h : a ∈ Dict.keys p) : p ≠ [] := by
  rintro rfl; cases h

theorem readable_nil {w : List Nat} : Readable ([] : Net W) w ↔ w = [] := Iff.rfl

theorem readable_cons {p : Pos W} {ps : Net W} {w : List Nat} :
    Readable (p :: ps) w ↔ ∃ a ∈ Dict.keys p, ∃ w', Readable ps w' ∧ w = a.toList ++ w' := Iff.rfl

theorem _root_.CN.Readable.cons {p : Pos W} {ps : Net W} {w : List Nat} {a : Arc}
    (ha : a ∈ Dict.keys p) (h : Readable ps w) : Readable (p :: ps) (a.toList ++ w) :=
  ⟨a, ha, w, h, rfl⟩

theorem readable_append {a b : Net W} {w : List Nat} :
    Readable (a ++ b) w ↔ ∃ w₁ w₂, Readable a w₁ ∧ Readable b w₂ ∧ w = w₁ ++ w₂ := by
  induction a generalizing w with
  | nil => simp [readable_nil]
  | cons p a ih =>
    simp only [List.cons_append, readable_cons, ih]
    constructor
    · rintro ⟨x, hx, w', ⟨w₁, w₂, h1, h2, rfl⟩, rfl⟩
      exact ⟨x.toList ++ w₁, w₂, ⟨x, hx, w₁, h1, rfl⟩, h2, by simp⟩
    · rintro ⟨w₁, w₂, ⟨x, hx, w', h1, rfl⟩, h2, rfl⟩
      exact ⟨x, hx, w' ++ w₂, ⟨w', w₂, h1, h2, rfl⟩, by simp⟩

theorem readable_of_keys {a b : Net W} (h : a.map Dict.keys = b.map Dict.keys) {w : List Nat} :
    Readable a w → Readable b w := by
  induction a generalizing b w with
  | nil => cases List.map_eq_nil_iff.1 h.symm; exact id
  | cons p a ih =>
    obtain ⟨q, b, rfl, hq, hb⟩ := List.map_eq_cons_iff.1 h.symm
    rintro ⟨x, hx, w', hw', rfl⟩
    exact .cons (hq ▸ hx) (ih hb.symm hw')

def newPos (tw s : W) (c : Nat) : Pos W := [(none, tw), (some c, s)]

/-- `Walk o s tw todo tr new`: walking the original positions `todo` against the transcript `tr`
produces the positions `new`. -/
inductive Walk (o : WOps W) (s tw : W) : Net W → List Nat → Net W → Prop
  | nil : Walk o s tw [] [] []
  | ins (c : Nat) {todo tr new} : Walk o s tw todo tr new →
      Walk o s tw todo (c :: tr) (newPos tw s c :: new)
  | eps (q : Pos W) {todo tr new} : Walk o s tw todo tr new →
      Walk o s tw (q :: todo) tr (bump o q none s :: new)
  | sub (q : Pos W) (c : Nat) {todo tr new} : Walk o s tw todo tr new →
      Walk o s tw (q :: todo) (c :: tr) (bump o q (some c) s :: new)

section
variable {o : WOps W} {s tw : W} {todo new : Net W} {tr : List Nat}

/-- Every position of the result is a fresh one or an old one with one arc bumped. -/
theorem Walk.mem (h : Walk o s tw todo tr new) :
    ∀ n ∈ new, (∃ c, n = newPos tw s c) ∨ ∃ q ∈ todo, ∃ k, n = bump o q k s := by
  induction h with
  | nil => exact fun _ hn => nomatch hn
  | ins c _ ih =>
    rintro n (_ | ⟨_, hn⟩)
    · exact .inl ⟨c, rfl⟩
    · exact ih n hn
  | eps q _ ih | sub q c _ ih =>
    rintro n (_ | ⟨_, hn⟩)
    · exact .inr ⟨q, List.mem_cons_self, _, rfl⟩
    · exact (ih n hn).imp_right fun ⟨r, hr, x⟩ => ⟨r, List.mem_cons_of_mem _ hr, x⟩

theorem Walk.wf (h : Walk o s tw todo tr new) : WFNet new := fun n hn => by
  obtain ⟨c, rfl⟩ | ⟨q, -, k, rfl⟩ := h.mem n hn
  · exact List.cons_ne_nil _ _
  · exact ne_nil_of_mem_keys ((mem_keys_bump ..).2 (.inr rfl))

theorem Walk.ne_nil (h : Walk o s tw todo tr new) (hne : todo ≠ []) : new ≠ [] := by
  cases h <;> simp_all

theorem Walk.keeps (h : Walk o s tw todo tr new) : ∀ w, Readable todo w → Readable new w := by
  induction h with
  | nil => exact fun w h => h
  | ins c _ ih => exact fun w hw => .cons (a := none) (.head _) (ih w hw)
  | eps q _ ih | sub q c _ ih =>
    rintro w ⟨a, ha, w', hw', rfl⟩
    exact .cons ((mem_keys_bump ..).2 (.inl ha)) (ih w' hw')

theorem Walk.reads_new (h : Walk o s tw todo tr new) : Readable new tr := by
  induction h with
  | nil => exact rfl
  | ins c _ ih => exact .cons (a := some c) (.tail _ (.head _)) ih
  | eps q _ ih => exact .cons (a := none) ((mem_keys_bump ..).2 (.inr rfl)) ih
  | sub q c _ ih => exact .cons (a := some c) ((mem_keys_bump ..).2 (.inr rfl)) ih

end

theorem getElem?_mid {α : Type} (l r : List α) (a : α) : (l ++ a :: r)[l.length]? = some a := by
  rw [List.getElem?_append_right (Nat.le_refl _), Nat.sub_self]; rfl

theorem set_mid {α : Type} (l r : List α) (a b : α) : (l ++ a :: r).set l.length b = l ++ b :: r := by
  rw [List.set_append_right _ _ (Nat.le_refl _), Nat.sub_self]; rfl

theorem step_eps (o : WOps W) (adv : Bool) (tr : List Nat) (s tw : W) (done todo : Net W) (q : Pos W)
    (k : Nat) :
    addStep o adv tr s tw ⟨done ++ q :: todo, done.length, k⟩ (-1) =
      some ⟨(done ++ [bump o q none s]) ++ todo, (done ++ [bump o q none s]).length, k⟩ := by
  simp only [addStep, getElem?_mid, set_mid, if_true, List.append_assoc, List.length_append]
  rfl

theorem step_sub (o : WOps W) (adv : Bool) (s tw : W) (done todo : Net W) (q : Pos W)
    (pre suf : List Nat) (c : Nat) :
    addStep o adv (pre ++ c :: suf) s tw ⟨done ++ q :: todo, done.length, pre.length⟩ 0 =
      some ⟨(done ++ [bump o q (some c) s]) ++ todo, (done ++ [bump o q (some c) s]).length,
        (pre ++ [c]).length⟩ := by
  simp only [addStep, getElem?_mid, set_mid, Int.reduceNeg, zero_eq_neg, one_ne_zero, if_true,
    if_false, List.append_assoc, List.length_append]
  rfl

theorem step_ins (o : WOps W) (s tw : W) (done todo : Net W) (pre suf : List Nat) (c : Nat) :
    addStep o true (pre ++ c :: suf) s tw ⟨done ++ todo, done.length, pre.length⟩ 1 =
      some ⟨(done ++ [newPos tw s c]) ++ todo, (done ++ [newPos tw s c]).length,
        (pre ++ [c]).length⟩ := by
  have h : ¬ (1 : Int) = -1 ∧ ¬ (1 : Int) = 0 := by decide
  have hp : Dict.set (Dict.set [] none tw) (some c) s = newPos tw s c := rfl
  simp only [addStep, h.1, h.2, getElem?_mid, hp, if_true, if_false, List.take_left, List.drop_left,
    List.append_assoc, List.length_append]
  split
  · rename_i h'
    rw [Nat.left_eq_add, List.length_eq_zero_iff] at h'
    rw [h']; rfl
  · rfl

open Lev in
/-- Only the lengths of the two sides of the alignment matter; `(none, none)` pairs leave no step. -/
theorem walk_foldlM {α : Type} (o : WOps W) (s tw : W) (al : Alignment α) :
    ∀ (done todo : Net W) (pre suf : List Nat),
      (srcOf al).length = suf.length → (tgtOf al).length = todo.length →
      ∃ new, Walk o s tw todo suf new ∧
        ((pathOf al).foldlM (addStep o true (pre ++ suf) s tw)
          ⟨done ++ todo, done.length, pre.length⟩).map (·.cn) = some (done ++ new) := by
  induction al with
  | nil =>
    intro done todo pre suf hs ht
    cases List.length_eq_zero_iff.1 hs.symm
    cases List.length_eq_zero_iff.1 ht.symm
    exact ⟨[], .nil, rfl⟩
  | cons p al ih =>
    intro done todo pre suf hs ht
    obtain ⟨_ | x, _ | y⟩ := p
    · exact ih done todo pre suf hs ht
    · obtain _ | ⟨q, todo⟩ := todo
      · cases ht
      obtain ⟨new, hw, hf⟩ := ih (done ++ [bump o q none s]) todo pre suf hs (Nat.succ.inj ht)
      refine ⟨_ :: new, hw.eps q, ?_⟩
      rw [pathOf, List.foldlM_cons, step_eps]
      exact hf.trans (congrArg some (List.append_assoc ..))
    · obtain _ | ⟨c, suf⟩ := suf
      · cases hs
      obtain ⟨new, hw, hf⟩ := ih (done ++ [newPos tw s c]) todo (pre ++ [c]) suf
        (Nat.succ.inj hs) ht
      refine ⟨_ :: new, hw.ins c, ?_⟩
      rw [List.append_assoc pre] at hf
      rw [pathOf, List.foldlM_cons, step_ins]
      exact hf.trans (congrArg some (List.append_assoc ..))
    · obtain _ | ⟨q, todo⟩ := todo
      · cases ht
      obtain _ | ⟨c, suf⟩ := suf
      · cases hs
      obtain ⟨new, hw, hf⟩ := ih (done ++ [bump o q (some c) s]) todo (pre ++ [c]) suf
        (Nat.succ.inj hs) (Nat.succ.inj ht)
      refine ⟨_ :: new, hw.sub q c, ?_⟩
      rw [List.append_assoc pre] at hf
      rw [pathOf, List.foldlM_cons, step_sub]
      exact hf.trans (congrArg some (List.append_assoc ..))

theorem getPivot_nil (o : WOps W) : getPivot o ([] : Net W) = some [] := rfl

theorem getPivot_cons_eq_some {o : WOps W} {p : Pos W} {cn : Net W} {pv : List Arc} :
    getPivot o (p :: cn) = some pv ↔
      ∃ a pv', (sortDesc o p).head?.map (·.1) = some a ∧ getPivot o cn = some pv' ∧ pv = a :: pv' :=
  ListAux.mapM_option_cons_eq_some

theorem sortDesc_ne_nil (o : WOps W) (p : Pos W) (h : p ≠ []) : sortDesc o p ≠ [] := fun h' =>
  h (List.length_eq_zero_iff.1 ((List.length_mergeSort p).symm.trans (congrArg List.length h')))

theorem getPivot_some (o : WOps W) (cn : Net W) (h : WFNet cn) : ∃ pv, getPivot o cn = some pv := by
  refine ListAux.mapM_option_defined fun p hp => ?_
  obtain ⟨x, xs, hx⟩ := List.exists_cons_of_ne_nil (sortDesc_ne_nil o p (h p hp))
  exact ⟨x.1, by rw [hx]; rfl⟩

theorem addHyp_walk_of_pivot (o : WOps W) (adv : Bool) (hadv : adv = true) (cn : Net W)
    (tr : List Nat) (s : W) (hne : cn ≠ []) (pv : List Arc) (hpv : getPivot o cn = some pv) :
    ∃ cn', addHyp o adv cn tr s = some cn' ∧ Walk o s (totalWeight o cn) cn tr cn' := by
  subst hadv
  obtain ⟨al, hal, -, hs, ht, -⟩ := Lev.alignment_ok Lev.unit (tr.map some) pv
  obtain ⟨new, hw, hf⟩ := walk_foldlM o s (totalWeight o cn) al [] cn [] tr
    (by rw [hs, List.length_map]) (by rw [ht]; exact ListAux.length_of_mapM_option hpv)
  refine ⟨new, ?_, hw⟩
  simp only [addHyp, if_neg hne, hpv, Lev.alignmentPath, hal, Option.map_some]
  exact hf

theorem addHyp_walk (o : WOps W) (adv : Bool) (hadv : adv = true) (cn : Net W)
    (tr : List Nat) (s : W) (hne : cn ≠ []) (hwf : WFNet cn) :
    ∃ cn', addHyp o adv cn tr s = some cn' ∧ Walk o s (totalWeight o cn) cn tr cn' := by
  obtain ⟨pv, hpv⟩ := getPivot_some o cn hwf
  exact addHyp_walk_of_pivot o adv hadv cn tr s hne pv hpv

theorem addHyp_walk' (o : WOps W) (adv : Bool) (hadv : adv = true) (cn cn' : Net W)
    (tr : List Nat) (s : W) (hne : cn ≠ []) (h : addHyp o adv cn tr s = some cn') :
    Walk o s (totalWeight o cn) cn tr cn' := by
  cases hpv : getPivot o cn with
  | none => simp [addHyp, if_neg hne, hpv] at h
  | some pv =>
    obtain ⟨cn'', h', hw⟩ := addHyp_walk_of_pivot o adv hadv cn tr s hne pv hpv
    rw [h] at h'
    cases h'
    exact hw

theorem addHyp_nil (o : WOps W) (adv : Bool) (tr : List Nat) (s : W) :
    addHyp o adv [] tr s = some (tr.map fun c => [(some c, s)]) := by
  simp [addHyp]

theorem readable_first (s : W) : ∀ tr : List Nat, Readable (tr.map fun c => ([(some c, s)] : Pos W)) tr := by
  intro tr
  induction tr with
  | nil => exact rfl
  | cons c tr ih => exact ⟨some c, by simp [Dict.keys], tr, ih, by simp⟩

theorem wf_first (s : W) (tr : List Nat) : WFNet (tr.map fun c => ([(some c, s)] : Pos W)) := by
  intro p hp
  simp only [List.mem_map] at hp
  obtain ⟨c, _, rfl⟩ := hp
  simp

theorem foldlM_hyps (o : WOps W) (adv : Bool) (hadv : adv = true) :
    ∀ (rest : List (List Nat × W)) (cn : Net W), cn ≠ [] → WFNet cn →
      ∃ cn', rest.foldlM (fun cn h => addHyp o adv cn h.1 h.2) cn = some cn' ∧
        (∀ w, Readable cn w → Readable cn' w) ∧ ∀ h ∈ rest, Readable cn' h.1 := by
  intro rest
  induction rest with
  | nil => intro cn _ _; exact ⟨cn, rfl, fun _ h => h, by simp⟩
  | cons h rest ih =>
    intro cn hne hwf
    obtain ⟨cn₁, h₁, hw⟩ := addHyp_walk o adv hadv cn h.1 h.2 hne hwf
    obtain ⟨cn', h', hk, hr⟩ := ih cn₁ (hw.ne_nil hne) hw.wf
    refine ⟨cn', ?_, fun w hw' => hk w (hw.keeps w hw'), ?_⟩
    · rw [List.foldlM_cons, h₁]; exact h'
    · intro x hx
      rcases List.mem_cons.1 hx with rfl | hx
      · exact hk _ hw.reads_new
      · exact hr x hx

theorem normalize_keys (o : WOps W) (cn : Net W) :
    (normalize o cn).map Dict.keys = cn.map Dict.keys := by
  simp [normalize, Dict.keys, Function.comp_def]

theorem readable_normalize (o : WOps W) (cn : Net W) (w : List Nat) (h : Readable cn w) :
    Readable (normalize o cn) w :=
  readable_of_keys (normalize_keys o cn).symm h

section Product

theorem mem_product {ps : List (List (Arc × W))} {ch : List (Arc × W)} :
    ch ∈ product ps ↔ List.Forall₂ (· ∈ ·) ch ps := by
  induction ps generalizing ch with
  | nil => simp [product]
  | cons p ps ih =>
    simp only [product, List.mem_flatMap, List.mem_map, List.forall₂_cons_right_iff, ih]
    exact ⟨fun ⟨a, ha, r, hr, e⟩ => ⟨a, r, ha, hr, e.symm⟩,
      fun ⟨a, r, ha, hr, e⟩ => ⟨a, ha, r, hr, e.symm⟩⟩

theorem length_product (ps : List (List (Arc × W))) :
    (product ps).length = (ps.map List.length).prod := by
  induction ps with
  | nil => rfl
  | cons p ps ih =>
    simp only [product, List.length_flatMap, List.length_map, ih, List.map_const', List.sum_replicate_nat,
      List.map_cons, List.prod_cons]

theorem nodup_product {ps : List (List (Arc × W))} (h : ∀ p ∈ ps, p.Nodup) : (product ps).Nodup := by
  induction ps with
  | nil => simp [product]
  | cons p ps ih =>
    rw [List.forall_mem_cons] at h
    refine List.pairwise_flatMap.2 ⟨fun a _ => ?_, h.1.imp ?_⟩
    · exact List.pairwise_map.2 ((ih h.2).imp fun hxy e => hxy (List.cons.inj e).2)
    · intro a b hab x hx y hy hxy
      obtain ⟨_, _, rfl⟩ := List.mem_map.1 hx
      obtain ⟨_, _, rfl⟩ := List.mem_map.1 hy
      exact hab (List.cons.inj hxy).1

theorem product_single {γ : Type} (f : γ → Arc × W) (tr : List γ) :
    product (tr.map fun c => [f c]) = [tr.map f] := by
  induction tr with
  | nil => rfl
  | cons c tr ih => simp [product, ih]

/-- The distributive law over a whole network: the sum over all arc combinations of the product of
the weights is the product over the positions of the sum of the weights. -/
theorem sum_product [CommSemiring W] (ps : List (List (Arc × W))) :
    ((product ps).map fun arcs => (arcs.map (·.2)).prod).sum =
      (ps.map fun p => (p.map (·.2)).sum).prod := by
  induction ps with
  | nil => simp [product]
  | cons p ps ih =>
    simp only [product, List.flatMap_def, List.map_flatten, List.sum_flatten, List.map_map,
      Function.comp_def, List.map_cons, List.prod_cons, List.sum_map_mul_left, ih,
      List.sum_map_mul_right]

end Product

section Field
variable [Field W] [LinearOrder W] [IsStrictOrderedRing W]

def fieldOps (W : Type) [Field W] [LinearOrder W] : WOps W :=
  { zero := 0, one := 1, add := (· + ·), mul := (· * ·), lt := fun a b => decide (a < b),
    div := (· / ·), ofNat := fun n => (n : W) }

omit [IsStrictOrderedRing W] in
theorem posTotal_eq (p : Pos W) : posTotal (fieldOps W) p = (p.map (·.2)).sum :=
  List.sum_eq_foldl.symm

omit [IsStrictOrderedRing W] in
theorem pathProb_eq (arcs : List (Arc × W)) :
    pathProb (fieldOps W) arcs = (arcs.map (·.2)).prod :=
  (List.prod_eq_foldl.trans List.foldl_map).symm

omit [LinearOrder W] [IsStrictOrderedRing W] in
theorem sum_set (p : Pos W) (k : Arc) (x : W) :
    ((Dict.set p k x).map (·.2)).sum = (p.map (·.2)).sum + x - (Dict.get? p k).getD 0 := by
  induction p with
  | nil => simp [Dict.set, Dict.get?]
  | cons y p ih =>
    rw [Dict.set_cons, Dict.get?_cons]
    split
    · simp only [List.map_cons, List.sum_cons, Option.getD_some]; ring
    · simp only [List.map_cons, List.sum_cons, ih]; ring

omit [IsStrictOrderedRing W] in
theorem posTotal_bump (p : Pos W) (k : Arc) (s : W) :
    posTotal (fieldOps W) (bump (fieldOps W) p k s) = posTotal (fieldOps W) p + s := by
  rw [posTotal_eq, posTotal_eq, bump_eq, sum_set]
  cases Dict.get? p k with
  | none => exact sub_zero _
  | some v => show _ + (v + s) - v = _; ring

omit [IsStrictOrderedRing W] in
theorem get?_bump_self (p : Pos W) (k : Arc) (s : W) :
    Dict.get? (bump (fieldOps W) p k s) k = some ((Dict.get? p k).getD 0 + s) := by
  rw [bump_eq, Dict.get?_set_self]
  cases Dict.get? p k with
  | none => exact congrArg some (zero_add s).symm
  | some v => rfl

theorem totalWeight_uniform (cn : Net W) (T : W) (hne : cn ≠ []) (hu : Uniform (fieldOps W) cn T) :
    totalWeight (fieldOps W) cn = T := by
  show List.foldl (· + ·) (0 : W) (cn.map (posTotal (fieldOps W))) / (cn.length : W) = T
  rw [← List.sum_eq_foldl, List.sum_eq_card_nsmul _ T (List.forall_mem_map.2 hu), List.length_map,
    nsmul_eq_mul]
  exact mul_div_cancel_left₀ _ (Nat.cast_ne_zero.2 fun h => hne (List.length_eq_zero_iff.1 h))

omit [IsStrictOrderedRing W] in
theorem Walk.uniform {s T : W} {todo tr new} (h : Walk (fieldOps W) s T todo tr new)
    (hu : Uniform (fieldOps W) todo T) : Uniform (fieldOps W) new (T + s) := by
  intro n hn
  obtain ⟨c, rfl⟩ | ⟨q, hq, k, rfl⟩ := h.mem n hn
  · rw [posTotal_eq]; simp [newPos]
  · rw [posTotal_bump, hu q hq]

theorem addHyp_uniform (adv : Bool) (hadv : adv = true) (cn cn' : Net W) (tr : List Nat) (s T : W)
    (hne : cn ≠ []) (hu : Uniform (fieldOps W) cn T)
    (h : addHyp (fieldOps W) adv cn tr s = some cn') : Uniform (fieldOps W) cn' (T + s) := by
  have hw := addHyp_walk' (fieldOps W) adv hadv cn cn' tr s hne h
  rw [totalWeight_uniform cn T hne hu] at hw
  exact hw.uniform hu

omit [IsStrictOrderedRing W] in
theorem uniform_first (tr : List Nat) (s : W) :
    Uniform (fieldOps W) (tr.map fun c => ([(some c, s)] : Pos W)) s := by
  intro p hp
  obtain ⟨c, -, rfl⟩ := List.mem_map.1 hp
  rw [posTotal_eq]; simp

omit [IsStrictOrderedRing W] in
theorem normalize_uniform (cn : Net W) (h : ∀ p ∈ cn, posTotal (fieldOps W) p ≠ 0) :
    Uniform (fieldOps W) (normalize (fieldOps W) cn) 1 := by
  intro q hq
  obtain ⟨p, hp, rfl⟩ := List.mem_map.1 hq
  rw [posTotal_eq, List.map_map]
  show (p.map fun kv => kv.2 / posTotal (fieldOps W) p).sum = 1
  simp only [div_eq_mul_inv, List.sum_map_mul_right, ← posTotal_eq]
  exact mul_inv_cancel₀ (h p hp)

omit [IsStrictOrderedRing W] in
theorem not_lt_iff (a b : W) : (!(fieldOps W).lt a b) = true ↔ b ≤ a := by
  simp [fieldOps]

omit [IsStrictOrderedRing W] in
theorem sortedPaths_pairwise (cn : Net W) :
    (sortedPaths (fieldOps W) cn).Pairwise fun a b => b.2 ≤ a.2 := by
  unfold sortedPaths
  split
  · exact List.Pairwise.nil
  · refine (List.pairwise_mergeSort ?_ ?_ _).imp fun h => (not_lt_iff _ _).1 h
    · exact fun a b c hab hbc =>
        (not_lt_iff _ _).2 (le_trans ((not_lt_iff _ _).1 hbc) ((not_lt_iff _ _).1 hab))
    · exact fun a b => by simpa only [Bool.or_eq_true, not_lt_iff] using le_total b.2 a.2

omit [IsStrictOrderedRing W] in
theorem sortedPaths_sum_eq (cn : Net W) (hne : cn ≠ []) :
    ((sortedPaths (fieldOps W) cn).map (·.2)).sum = (cn.map (posTotal (fieldOps W))).prod := by
  simp only [sortedPaths, if_neg hne]
  rw [((List.mergeSort_perm _ _).map _).sum_eq]
  simp only [List.map_map, Function.comp_def, pathProb_eq]
  rw [sum_product, List.map_map]
  refine congrArg List.prod (List.map_congr_left fun p _ => ?_)
  rw [posTotal_eq]
  exact ((List.mergeSort_perm p _).map _).sum_eq

omit [IsStrictOrderedRing W] in
theorem sortedPaths_sum (cn : Net W) (hne : cn ≠ []) (hu : Uniform (fieldOps W) cn 1) :
    ((sortedPaths (fieldOps W) cn).map (·.2)).sum = 1 := by
  rw [sortedPaths_sum_eq cn hne]
  exact List.prod_eq_one (List.forall_mem_map.2 hu)

omit [IsStrictOrderedRing W] in
theorem normalize_first (tr : List Nat) (s : W) (hs : s ≠ 0) :
    normalize (fieldOps W) (tr.map fun c => ([(some c, s)] : Pos W)) =
      tr.map fun c => ([(some c, 1)] : Pos W) := by
  rw [normalize, List.map_map]
  refine List.map_congr_left fun c _ => ?_
  show [((some c : Arc), s / (0 + s))] = _
  rw [zero_add, div_self hs]

omit [Field W] [LinearOrder W] [IsStrictOrderedRing W] in
theorem getPivot_single (o : WOps W) (x : W) (tr : List Nat) :
    getPivot o (tr.map fun c => ([(some c, x)] : Pos W)) = some (tr.map some) := by
  induction tr with
  | nil => rfl
  | cons c tr ih => exact getPivot_cons_eq_some.2 ⟨_, _, by simp [sortDesc], ih, rfl⟩

omit [IsStrictOrderedRing W] in
theorem sortedPaths_single (tr : List Nat) (hne : tr ≠ []) :
    sortedPaths (fieldOps W) (tr.map fun c => ([(some c, 1)] : Pos W)) = [(tr, 1)] := by
  have hne' : (tr.map fun c => ([(some c, (1 : W))] : Pos W)) ≠ [] := by simpa using hne
  simp only [sortedPaths, if_neg hne', List.map_map, Function.comp_def]
  have : (fun c : Nat => sortDesc (fieldOps W) [(some c, (1 : W))]) =
      fun c => [((some c : Arc), (1 : W))] := by
    funext c; simp [sortDesc]
  rw [this, product_single (fun c : Nat => ((some c : Arc), (1 : W)))]
  simp [pathProb_eq, pathString, List.filterMap_map, Function.comp_def]

end Field

end CNL
