/-
Lemmas for C04: `argmaxFirst` is the shared first-arg-max scan; each of the three decoders of `Model/Greedy` satisfies the
`cons` equation of `collapseAux` (for the engine with an arbitrary previous symbol, `engineAux`).
-/
import PeroVerif.Model.Greedy
import PeroVerif.Lemmas.Ctc
import PeroVerif.Lemmas.ListAux

namespace Ctc


theorem argmaxFirst_go_eq (best : Int) (bi i : Nat) (ys : List Int) :
    argmaxFirst.go best bi i ys = (ListAux.scanFirst (fun a b => decide (a < b)) best bi i ys).1 := by
  induction ys generalizing best bi i with
  | nil => rfl
  | cons y ys ih =>
    simp only [argmaxFirst.go, ListAux.scanFirst, decide_eq_true_eq]
    split <;> exact ih ..

theorem argmaxFirst_cons (x : Int) (xs : List Int) :
    argmaxFirst (x :: xs) = (ListAux.scanFirst (fun a b => decide (a < b)) x 0 1 xs).1 :=
  argmaxFirst_go_eq x 0 1 xs

theorem strictWeak_int : ListAux.StrictWeak fun a b : Int => decide (a < b) :=
  ⟨by simp, by simp only [decide_eq_true_eq, decide_eq_false_iff_not]; omega,
    by simp only [decide_eq_true_eq, decide_eq_false_iff_not]; omega⟩

end Ctc

namespace Greedy
open Ctc


/-- The engine pipeline with an arbitrary previous symbol `prev` in place of the prepended blank. -/
def engineAux (C : Nat) (prev : Nat) (am : List Nat) : List Nat :=
  let best : List Nat := (prev :: am).map (· + 1)
  let mask : List Bool := List.zipWith (fun a b => a == b) best best.tail
  let best1 : List Nat := best.tail
  let best2 : List Nat := List.zipWith (fun b m => if m then 0 else b) best1 mask
  let best3 : List Nat := best2.map fun b => if b = C then 0 else b
  let best4 : List Int := best3.map fun (b : Nat) => (Int.ofNat b) - 1
  (best4.filter (· ≥ 0)).map Int.toNat

theorem engineLine_eq_engineAux (C : Nat) (am : List Nat) :
    engineLine C am = engineAux C (C - 1) am := rfl

theorem engineAux_nil (C prev : Nat) : engineAux C prev [] = [] := by
  simp [engineAux]

theorem engineAux_cons (C prev a : Nat) (r : List Nat) :
    engineAux C prev (a :: r) =
      (if a + 1 = C ∨ prev = a then [] else [a]) ++ engineAux C a r := by
  simp only [engineAux, List.map_cons, List.tail_cons, List.zipWith_cons_cons, List.filter_cons]
  generalize List.filter _ (List.map _ (List.map _ (List.zipWith _ _ _))) = rest
  by_cases h1 : prev = a
  · simp [h1]
  · by_cases h2 : a + 1 = C
    · subst h2
      simp [h1]
    · simp [h1, h2]

theorem engineAux_eq_collapseAux (C : Nat) (hC : 0 < C) (prev : Nat) (am : List Nat) :
    engineAux C prev am = collapseAux (C - 1) (some prev) am := by
  induction am generalizing prev with
  | nil => simp only [engineAux_nil, collapseAux]
  | cons a r ih =>
    rw [engineAux_cons, collapseAux_cons, ih]
    simp only [Option.some.injEq, show a + 1 = C ↔ a = C - 1 from ⟨fun h => by omega, fun h => by omega⟩]

theorem groupHeads_filter_cons (blank x : Nat) (r : List Nat) :
    (groupHeads (x :: r)).filter (· ≠ blank) =
      (if x = blank then [] else [x]) ++ collapseAux blank (some x) r := by
  induction r generalizing x with
  | nil =>
    by_cases h : x = blank <;> simp [groupHeads, collapseAux, h]
  | cons y r' ih =>
    rw [collapseAux_cons, ← List.append_assoc]
    simp only [groupHeads]
    by_cases hxy : x = y
    · subst hxy
      rw [if_pos rfl, ih]
      by_cases hb : x = blank <;> simp [hb]
    · have hne : ¬ (some x = some y) := fun h => hxy (Option.some.inj h)
      rw [if_neg hxy, List.filter_cons, ih]
      by_cases hb : x = blank <;> by_cases hb' : y = blank <;> simp [hb, hb', hxy]
      · subst hb; simp [hxy]

theorem standalone_eq_collapse (blank : Nat) (am : List Nat) :
    standalone blank am = collapse blank am := by
  cases am with
  | nil => simp [standalone, groupHeads, collapse, collapseAux]
  | cons x r =>
    simp only [standalone, collapse]
    rw [groupHeads_filter_cons, collapseAux_cons]
    simp

theorem filtration_eq_collapseAux (blank : Nat) (last : Option Nat) (hl : last ≠ some blank)
    (am : List Nat) : filtration blank last am = collapseAux blank last am := by
  induction am generalizing last with
  | nil => simp only [filtration, collapseAux]
  | cons c r ih =>
    rw [collapseAux_cons]
    simp only [filtration]
    by_cases hc : c = blank
    · subst hc
      simp only [ne_eq, not_true_eq_false, if_false, true_or, if_true, List.nil_append]
      rw [ih none (by simp), collapseAux_some_blank]
    · have hsc : (some c : Option Nat) ≠ some blank := fun h => hc (Option.some.inj h)
      by_cases hlc : last = some c
      · subst hlc
        simp only [ne_eq, hc, not_false_eq_true, if_true, not_true_eq_false, if_false,
          or_true, List.nil_append]
        exact ih (some c) hsc
      · simp only [ne_eq, hc, not_false_eq_true, if_true, hlc, false_or, if_false,
          List.singleton_append]
        rw [ih (some c) hsc]

theorem groupHeads_length_le (am : List Nat) : (groupHeads am).length ≤ am.length := by
  fun_induction groupHeads am <;> simp_all <;> omega

theorem groupHeads_mem (am : List Nat) : ∀ x ∈ groupHeads am, x ∈ am := by
  fun_induction groupHeads am <;> simp_all

end Greedy
