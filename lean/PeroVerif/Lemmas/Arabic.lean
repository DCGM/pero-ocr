/-
Lemmas for C06 about `ArabicHelper._reverse`: the real machine is mapped onto a simpler one by a function
that commutes with every step; permutation and involution are proved of the simple machine.
-/
import PeroVerif.Model.Arabic

namespace Ar

/-! ### a simpler machine: no bookkeeping of the sequence list

`ar acc`: the machine is in an Arabic sequence, `acc` is the output for everything consumed;
`no acc blk pend`: in a non-Arabic sequence `blk ++ pend` (`blk` ends with a non-delimiter, `pend`
are delimiters), `acc` is the output for everything before it. -/

inductive SS where
  | ar (acc : List Nat)
  | no (acc blk pend : List Nat)

def stepS (isA isD : Nat → Bool) : SS → Nat → SS
  | .ar acc, c => if isA c then .ar (c :: acc) else if isD c then .ar (c :: acc) else .no acc [c] []
  | .no acc b p, c =>
    if isA c then .ar (c :: (p.reverse ++ (b ++ acc)))
    else if isD c then .no acc b (p ++ [c]) else .no acc (b ++ p ++ [c]) []

def finS : SS → List Nat
  | .ar acc => acc
  | .no acc b p => p.reverse ++ (b ++ acc)

def spec (isA isD : Nat → Bool) (s : List Nat) : List Nat :=
  finS (s.foldl (stepS isA isD) (.ar []))

/-- output value of a list of sequences -/
def val (seqs : List Seq) : List Nat :=
  (seqs.map fun q => if q.arabic then q.chars.reverse else q.chars).reverse.flatten

theorem val_append (a b : List Seq) : val (a ++ b) = val b ++ val a := by
  simp [val]

theorem val_nil : val [] = [] := rfl

theorem val_cons (q : Seq) (l : List Seq) :
    val (q :: l) = val l ++ (if q.arabic then q.chars.reverse else q.chars) := by
  simp [val]

/-- `splitTail` by `dropWhile` / `takeWhile` from the right -/
theorem splitTail_eq (isD : Nat → Bool) (cs : List Nat) :
    splitTail isD cs = ((cs.reverse.dropWhile isD).reverse, (cs.reverse.takeWhile isD).reverse) := by
  have h : cs = (cs.reverse.dropWhile isD).reverse ++ (cs.reverse.takeWhile isD).reverse := by
    rw [← List.reverse_append, List.takeWhile_append_dropWhile, List.reverse_reverse]
  unfold splitTail
  generalize (cs.reverse.takeWhile isD).reverse = b at h ⊢
  generalize (cs.reverse.dropWhile isD).reverse = a at h
  subst h
  show ((a ++ b).take ((a ++ b).length - b.length), b) = (a, b)
  rw [List.length_append, Nat.add_sub_cancel, List.take_left' rfl]

theorem splitTail_append (isD : Nat → Bool) (cs : List Nat) :
    (splitTail isD cs).1 ++ (splitTail isD cs).2 = cs := by
  rw [splitTail_eq, ← List.reverse_append, List.takeWhile_append_dropWhile, List.reverse_reverse]

theorem splitTail_snoc_of_neg (isD : Nat → Bool) (cs : List Nat) {c : Nat} (h : isD c = false) :
    splitTail isD (cs ++ [c]) = (cs ++ [c], []) := by
  simp [splitTail_eq, h]

theorem splitTail_snoc_of_pos (isD : Nat → Bool) (cs : List Nat) {c : Nat} (h : isD c = true) :
    splitTail isD (cs ++ [c]) = ((splitTail isD cs).1, (splitTail isD cs).2 ++ [c]) := by
  simp [splitTail_eq, h]
theorem splitTail_nil (isD : Nat → Bool) : splitTail isD [] = ([], []) := rfl

/-- what the simple machine sees of a state of the real one -/
def absS (isD : Nat → Bool) (st : St) : SS :=
  if st.cur.arabic then .ar (st.cur.chars.reverse ++ val st.done)
  else .no (val st.done) (splitTail isD st.cur.chars).1 (splitTail isD st.cur.chars).2

theorem absS_step (isA isD : Nat → Bool) (st : St) (c : Nat) :
    absS isD (step isA isD st c) = stepS isA isD (absS isD st) c := by
  obtain ⟨done, ⟨chars, arabic⟩⟩ := st
  have hl : chars ≠ [] → chars.length > 0 := List.length_pos_iff.mpr
  cases arabic with
  | true =>
    by_cases hA : isA c = true
    · simp [step, stepS, absS, hA]
    · by_cases hD : isD c = true
      · simp [step, stepS, absS, hA, hD]
      · have e : splitTail isD [c] = ([c], []) := splitTail_snoc_of_neg isD [] (Bool.not_eq_true _ ▸ hD)
        by_cases hc : chars = [] <;>
          simp [step, stepS, absS, hA, hD, hc, hl, val_append, val_cons, val_nil, e]
  | false =>
    by_cases hA : isA c = true
    · by_cases hc : chars = [] <;>
        simp [step, stepS, absS, hA, hc, hl, val_append, val_cons, val_nil, splitTail_nil]
    · by_cases hD : isD c = true
      · simp [step, stepS, absS, hA, hD, splitTail_snoc_of_pos isD chars hD]
      · simp [step, stepS, absS, hA, hD, splitTail_snoc_of_neg isD chars (Bool.not_eq_true _ ▸ hD),
          splitTail_append]

theorem absS_finish (isD : Nat → Bool) (st : St) : val (finish isD st) = finS (absS isD st) := by
  obtain ⟨done, ⟨chars, arabic⟩⟩ := st
  by_cases hc : chars = []
  · subst hc; cases arabic <;> simp [finish, finS, absS, splitTail_nil]
  · have hs := splitTail_append isD chars
    simp only [finish, List.length_pos_iff.mpr hc, if_true, absS]
    generalize splitTail isD chars = rt at hs ⊢
    obtain ⟨rest, tail⟩ := rt
    subst hs
    cases arabic <;> by_cases ht : tail = [] <;>
      simp [finS, ht, List.length_pos_iff, val_append, val_cons, val_nil]

theorem reverse_eq_spec (isA isD : Nat → Bool) (s : List Nat) :
    reverse isA isD s = spec isA isD s := by
  have h : ∀ st, absS isD (s.foldl (step isA isD) st) = s.foldl (stepS isA isD) (absS isD st) := by
    induction s with
    | nil => intro _; rfl
    | cons c r ih => intro st; rw [List.foldl_cons, ih, absS_step]; rfl
  exact (absS_finish isD _).trans (congrArg finS (h _))

theorem finS_stepS_nonO (isA isD : Nat → Bool) (S : SS) (c : Nat)
    (h : isA c = true ∨ isD c = true) : finS (stepS isA isD S c) = c :: finS S := by
  cases S with
  | ar acc =>
    rcases h with h | h
    · simp [stepS, h, finS]
    · by_cases hA : isA c = true <;> simp [stepS, h, hA, finS]
  | no acc b p =>
    by_cases hA : isA c = true
    · simp [stepS, hA, finS]
    · have hD : isD c = true := by rcases h with h | h; exact absurd h hA; exact h
      simp [stepS, hA, hD, finS]

/-- a step puts the character in front of the output, except that a character that is neither
Arabic nor a delimiter is put behind the pending block -/
theorem finS_stepS_perm (isA isD : Nat → Bool) (S : SS) (c : Nat) :
    (finS (stepS isA isD S c)).Perm (c :: finS S) := by
  by_cases h : isA c = true ∨ isD c = true
  · rw [finS_stepS_nonO isA isD S c h]
  · have hA : isA c = false := by simpa using fun e => h (.inl e)
    have hD : isD c = false := by simpa using fun e => h (.inr e)
    cases S with
    | ar acc => simp [stepS, hA, hD, finS]
    | no acc b p =>
      have : (b ++ p ++ [c] ++ acc).Perm (c :: (p.reverse ++ (b ++ acc))) := by
        refine List.perm_iff_count.mpr fun a => ?_
        simp only [List.count_append, List.count_cons, List.count_reverse, List.count_nil]
        omega
      simpa [stepS, hA, hD, finS] using this

theorem perm_foldS (isA isD : Nat → Bool) (s : List Nat) (S : SS) :
    (finS (s.foldl (stepS isA isD) S)).Perm (s ++ finS S) := by
  induction s generalizing S with
  | nil => rfl
  | cons c r ih =>
    exact (ih _).trans (((finS_stepS_perm isA isD S c).append_left r).trans List.perm_middle)

theorem spec_perm (isA isD : Nat → Bool) (s : List Nat) : (spec isA isD s).Perm s := by
  simpa [spec, finS] using perm_foldS isA isD s (.ar [])

def SS.app (a : List Nat) : SS → SS
  | .ar acc => .ar (acc ++ a)
  | .no acc b p => .no (acc ++ a) b p

theorem stepS_app (isA isD : Nat → Bool) (a : List Nat) (S : SS) (c : Nat) :
    stepS isA isD (S.app a) c = (stepS isA isD S c).app a := by
  cases S <;> by_cases hA : isA c = true <;> by_cases hD : isD c = true <;>
    simp [stepS, SS.app, hA, hD]

theorem foldS_app (isA isD : Nat → Bool) (a : List Nat) (s : List Nat) : ∀ S : SS,
    s.foldl (stepS isA isD) (S.app a) = (s.foldl (stepS isA isD) S).app a := by
  induction s with
  | nil => intro S; rfl
  | cons c r ih => intro S; rw [List.foldl_cons, stepS_app, ih]; rfl

theorem finS_app (a : List Nat) (S : SS) : finS (S.app a) = finS S ++ a := by
  cases S <;> simp [finS, SS.app]

theorem fin_fold_ar (isA isD : Nat → Bool) (acc s : List Nat) :
    finS (s.foldl (stepS isA isD) (.ar acc)) = spec isA isD s ++ acc := by
  have : SS.ar acc = (SS.ar []).app acc := by simp [SS.app]
  rw [this, foldS_app, finS_app]; rfl

theorem spec_nil (isA isD : Nat → Bool) : spec isA isD [] = [] := rfl

theorem spec_cons_nonO (isA isD : Nat → Bool) (c : Nat) (r : List Nat)
    (h : isA c = true ∨ isD c = true) : spec isA isD (c :: r) = spec isA isD r ++ [c] := by
  have : stepS isA isD (.ar []) c = .ar [c] := by
    rcases h with h | h
    · simp [stepS, h]
    · by_cases hA : isA c = true <;> simp [stepS, h, hA]
  rw [spec, List.foldl_cons, this, fin_fold_ar]

/-- no Arabic character, and the last character (if any) is not a delimiter -/
def endsO (isA isD : Nat → Bool) : List Nat → Bool
  | [] => true
  | c :: r => !isA c && (!isD c || !r.isEmpty) && endsO isA isD r

/-- delimiters followed by an Arabic character, or delimiters only -/
def beginsAr (isA isD : Nat → Bool) : List Nat → Bool
  | [] => true
  | c :: r => isA c || (isD c && beginsAr isA isD r)

theorem fold_block (isA isD : Nat → Bool) (acc : List Nat) (B : List Nat) : ∀ (blk pend : List Nat),
    endsO isA isD B = true → (B = [] → pend = []) →
    B.foldl (stepS isA isD) (.no acc blk pend) = .no acc (blk ++ pend ++ B) [] := by
  induction B with
  | nil => intro blk pend _ h; simp [h rfl]
  | cons c r ih =>
    intro blk pend h _
    simp only [endsO, Bool.and_eq_true, Bool.or_eq_true, Bool.not_eq_true'] at h
    obtain ⟨⟨hA, hD⟩, hr⟩ := h
    rw [List.foldl_cons]
    by_cases hd : isD c = true
    · have hne : r ≠ [] := by
        rcases hD with hD | hD
        · rw [hD] at hd; exact absurd hd (by simp)
        · intro e; subst e; simp at hD
      simp only [stepS, hA, hd, if_true, Bool.false_eq_true, if_false]
      rw [ih blk (pend ++ [c]) hr (fun e => absurd e hne)]
      simp
    · simp only [stepS, hA, hd, Bool.false_eq_true, if_false]
      rw [ih (blk ++ pend ++ [c]) [] hr (fun _ => rfl)]
      simp

theorem decomp (isA isD : Nat → Bool) (r : List Nat) :
    ∃ B t, r = B ++ t ∧ endsO isA isD B = true ∧ beginsAr isA isD t = true := by
  induction r with
  | nil => exact ⟨[], [], rfl, rfl, rfl⟩
  | cons c r ih =>
    obtain ⟨B, t, rfl, hB, ht⟩ := ih
    by_cases hA : isA c = true
    · exact ⟨[], c :: (B ++ t), rfl, rfl, by simp [beginsAr, hA]⟩
    · by_cases hD : isD c = true
      · cases B with
        | nil => exact ⟨[], c :: t, rfl, rfl, by simp [beginsAr, hD, ht]⟩
        | cons b B' => exact ⟨c :: b :: B', t, rfl, by simp [endsO, hA] at hB ⊢; exact hB, ht⟩
      · exact ⟨c :: B, t, rfl, by simp [endsO, hA, hD, hB], ht⟩

/-- a string that begins Arabic is processed from any state as from a fresh Arabic one -/
theorem fold_begins (isA isD : Nat → Bool) (t : List Nat) : ∀ S : SS, beginsAr isA isD t = true →
    finS (t.foldl (stepS isA isD) S) = spec isA isD t ++ finS S := by
  induction t with
  | nil => intro S _; rfl
  | cons c r ih =>
    intro S h
    simp only [beginsAr, Bool.or_eq_true, Bool.and_eq_true] at h
    by_cases hA : isA c = true
    · have : stepS isA isD S c = .ar (c :: finS S) := by cases S <;> simp [stepS, hA, finS]
      rw [List.foldl_cons, this, fin_fold_ar, spec_cons_nonO isA isD c r (.inl hA)]
      simp
    · have h' := h.resolve_left hA
      rw [List.foldl_cons, ih _ h'.2, finS_stepS_nonO isA isD S c (.inr h'.1),
        spec_cons_nonO isA isD c r (.inr h'.1)]
      simp

def endsAr (isA isD : Nat → Bool) (u : List Nat) : Prop :=
  ∃ acc, u.foldl (stepS isA isD) (.ar []) = .ar acc

/-- `spec` reverses the order of two parts cut where the right one begins Arabic … -/
theorem spec_append_begins (isA isD : Nat → Bool) (u v : List Nat) (h : beginsAr isA isD v = true) :
    spec isA isD (u ++ v) = spec isA isD v ++ spec isA isD u := by
  rw [spec, List.foldl_append, fold_begins isA isD v _ h]; rfl

/-- … or the left one ends Arabic -/
theorem spec_append_ends (isA isD : Nat → Bool) (u v : List Nat) (h : endsAr isA isD u) :
    spec isA isD (u ++ v) = spec isA isD v ++ spec isA isD u := by
  obtain ⟨acc, hacc⟩ := h
  have hu : spec isA isD u = acc := by rw [spec, hacc]; rfl
  rw [hu, spec, List.foldl_append, hacc, fin_fold_ar]

/-- a block of other characters (delimiters allowed inside) is kept as it is -/
theorem spec_block (isA isD : Nat → Bool) (o : Nat) (B : List Nat)
    (hoA : isA o = false) (hoD : isD o = false) (hB : endsO isA isD B = true) :
    spec isA isD (o :: B) = o :: B := by
  have h1 : stepS isA isD (.ar []) o = .no [] [o] [] := by simp [stepS, hoA, hoD]
  rw [spec, List.foldl_cons, h1, fold_block isA isD [] B [o] [] hB (fun _ => rfl)]
  simp [finS]

theorem endsAr_snoc (isA isD : Nat → Bool) (u : List Nat) (c : Nat)
    (h : isA c = true ∨ (isD c = true ∧ endsAr isA isD u)) : endsAr isA isD (u ++ [c]) := by
  unfold endsAr
  simp only [List.foldl_append, List.foldl_cons, List.foldl_nil]
  rcases h with h | ⟨hD, acc, hacc⟩
  · cases u.foldl (stepS isA isD) (.ar []) <;> simp [stepS, h]
  · rw [hacc]
    by_cases hA : isA c = true <;> simp [stepS, hA, hD]

theorem endsAr_spec (isA isD : Nat → Bool) (s : List Nat) (h : beginsAr isA isD s = true) :
    endsAr isA isD (spec isA isD s) := by
  induction s with
  | nil => exact ⟨[], rfl⟩
  | cons c r ih =>
    simp only [beginsAr, Bool.or_eq_true, Bool.and_eq_true] at h
    rcases h with h | h
    · rw [spec_cons_nonO isA isD c r (Or.inl h)]
      exact endsAr_snoc isA isD _ c (Or.inl h)
    · rw [spec_cons_nonO isA isD c r (Or.inr h.1)]
      exact endsAr_snoc isA isD _ c (Or.inr ⟨h.1, ih h.2⟩)

theorem spec_involutive_aux (isA isD : Nat → Bool) (n : Nat) : ∀ s : List Nat, s.length ≤ n →
    spec isA isD (spec isA isD s) = s := by
  induction n with
  | zero =>
    intro s hs
    have : s = [] := List.length_eq_zero_iff.mp (by omega)
    subst this; rfl
  | succ n ih =>
    intro s hs
    cases s with
    | nil => rfl
    | cons c r =>
      simp only [List.length_cons] at hs
      by_cases hc : isA c = true ∨ isD c = true
      · have hb : beginsAr isA isD [c] = true := by simpa [beginsAr] using hc
        rw [spec_cons_nonO isA isD c r hc, spec_append_begins isA isD _ _ hb, ih r (by omega),
          spec_cons_nonO isA isD c [] hc]; rfl
      · have hoA : isA c = false := by simpa using fun e => hc (.inl e)
        have hoD : isD c = false := by simpa using fun e => hc (.inr e)
        obtain ⟨B, t, rfl, hB, ht⟩ := decomp isA isD r
        have hlen : t.length ≤ n := by simp only [List.length_append] at hs; omega
        rw [← List.cons_append, spec_append_begins isA isD _ _ ht, spec_block isA isD c B hoA hoD hB,
          spec_append_ends isA isD _ _ (endsAr_spec isA isD t ht), spec_block isA isD c B hoA hoD hB,
          ih t hlen]

theorem spec_involutive (isA isD : Nat → Bool) (s : List Nat) :
    spec isA isD (spec isA isD s) = s :=
  spec_involutive_aux isA isD s.length s (Nat.le_refl _)

end Ar
