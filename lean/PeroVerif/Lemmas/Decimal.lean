/-
Round trips of the decimal printers and parsers of Py/Decimal.  `showNat` is identified with core's
`Nat.toDigits 10`, so what is needed about its digits, value and length is taken from core.
-/
import PeroVerif.Py.Decimal

namespace Py

def val (s : Str) : Nat := s.foldl (fun acc c => acc * 10 + (c - c0)) 0

theorem foldl_val (s : Str) (a : Nat) :
    s.foldl (fun acc c => acc * 10 + (c - c0)) a = a * 10 ^ s.length + val s := by
  induction s generalizing a with
  | nil => simp [val]
  | cons c r ih =>
    simp only [List.foldl_cons, val, List.length_cons]
    rw [ih, ih (0 * 10 + (c - c0))]
    simp only [Nat.pow_succ, Nat.zero_mul, Nat.zero_add, Nat.add_mul]
    rw [Nat.mul_assoc, Nat.mul_comm 10, Nat.add_assoc]

theorem val_cons (c : Nat) (r : Str) : val (c :: r) = (c - c0) * 10 ^ r.length + val r := by
  simp only [val, List.foldl_cons]
  rw [foldl_val]
  simp [val]

theorem val_append (a b : Str) : val (a ++ b) = val a * 10 ^ b.length + val b := by
  simp only [val, List.foldl_append]
  rw [foldl_val]
  simp [val]

theorem val_replicate_zero (j : Nat) : val (List.replicate j c0) = 0 := by
  induction j with
  | zero => rfl
  | succ j ih => rw [List.replicate_succ, val_cons, ih]; simp

def AllDigits (s : Str) : Prop := ∀ c ∈ s, isDigit c = true

theorem isDigit_iff (c : Nat) : isDigit c = true ↔ 48 ≤ c ∧ c ≤ 57 := by
  unfold isDigit c0
  rw [Bool.and_eq_true, decide_eq_true_iff, decide_eq_true_iff]

theorem showNatAux_eq (fuel n : Nat) (ds : List Char) :
    showNatAux fuel n (ds.map Char.toNat) = (Nat.toDigitsCore 10 fuel n ds).map Char.toNat := by
  induction fuel generalizing n ds with
  | zero => rfl
  | succ f ih =>
    have hd : c0 + n % 10 = (Nat.digitChar (n % 10)).toNat :=
      (Nat.toNat_digitChar_of_lt_ten (Nat.mod_lt n (by decide))).symm
    unfold showNatAux Nat.toDigitsCore
    by_cases h : n < 10
    · rw [if_pos h, if_pos (Nat.div_eq_of_lt h), List.map_cons, ← hd, Nat.mod_eq_of_lt h]
    · rw [if_neg h, if_neg (by omega), hd, ← List.map_cons, ih]

theorem showNat_eq (n : Nat) : showNat n = (Nat.toDigits 10 n).map Char.toNat :=
  showNatAux_eq (n + 1) n []

theorem showNat_digits (n : Nat) : AllDigits (showNat n) := by
  intro c hc
  rw [showNat_eq] at hc
  obtain ⟨ch, hch, rfl⟩ := List.mem_map.mp hc
  exact (isDigit_iff _).mpr
    (Char.isDigit_iff_toNat.mp (Nat.isDigit_of_mem_toDigits (by decide) (by decide) hch))

theorem showNat_val (n : Nat) : val (showNat n) = n := by
  rw [showNat_eq, val, List.foldl_map]
  refine Eq.trans ?_ (Nat.ofDigitChars_ten_toDigits (n := n))
  simp only [Nat.ofDigitChars, Nat.mul_comm, c0]; rfl

theorem showNat_ne_nil (n : Nat) : showNat n ≠ [] := by simp [showNat_eq]

theorem showNat_length (n k : Nat) (hk : 0 < k) (hn : n < 10 ^ k) : (showNat n).length ≤ k := by
  rw [showNat_eq, List.length_map]; exact (Nat.length_toDigits_le_iff (by decide) hk).mpr hn

theorem parseNat_of_digits (s : Str) (hne : s ≠ []) (hd : AllDigits s) : parseNat s = some (val s) := by
  unfold parseNat
  have h1 : s.isEmpty = false := by cases s <;> simp_all
  have h2 : s.all isDigit = true := List.all_eq_true.mpr hd
  simp [h1, h2, val]

theorem parseNat_showNat (n : Nat) : parseNat (showNat n) = some n := by
  rw [parseNat_of_digits _ (showNat_ne_nil n) (showNat_digits n), showNat_val]

theorem digit_ne {c : Nat} (h : isDigit c = true) : c ≠ cDot ∧ c ≠ cComma ∧ c ≠ cSpace ∧ c ≠ cMinus ∧ c ≠ cRBr := by
  have := (isDigit_iff c).mp h
  simp only [cDot, cComma, cSpace, cMinus, cRBr]; omega

theorem parseInt_of_digits {s : Str} {n : Nat} (hd : AllDigits s) (h : parseNat s = some n) :
    parseInt s = some (n : Int) := by
  cases s with
  | nil => cases h
  | cons c r => simp only [parseInt, if_neg (digit_ne (hd c List.mem_cons_self)).2.2.2.1, h]; rfl

def IntChar (c : Nat) : Prop := isDigit c = true ∨ c = cMinus

theorem showInt_chars (i : Int) : ∀ c ∈ showInt i, IntChar c := by
  unfold showInt
  split
  · intro c hc
    rcases List.mem_cons.mp hc with rfl | hc
    · exact Or.inr rfl
    · exact Or.inl (showNat_digits _ c hc)
  · intro c hc; exact Or.inl (showNat_digits _ c hc)

theorem showInt_ne_nil (i : Int) : showInt i ≠ [] := by
  unfold showInt
  split
  · simp
  · exact showNat_ne_nil _

theorem parseInt_showInt (i : Int) : parseInt (showInt i) = some i := by
  unfold showInt
  split
  · simp only [parseInt, if_true, parseNat_showNat]
    simp; omega
  · rw [parseInt_of_digits (showNat_digits _) (parseNat_showNat _)]
    congr 1; omega

theorem splitOn_ne_nil (sep : Nat) (s : Str) : splitOn sep s ≠ [] := by
  induction s with
  | nil => simp [splitOn]
  | cons c r ih =>
    unfold splitOn
    split
    · simp
    · split <;> simp

theorem splitOn_nosep (sep : Nat) (s : Str) (h : ∀ c ∈ s, c ≠ sep) : splitOn sep s = [s] := by
  induction s with
  | nil => rfl
  | cons c r ih =>
    have hc : c ≠ sep := h c List.mem_cons_self
    have hr := ih (fun c hc => h c (List.mem_cons_of_mem _ hc))
    simp [splitOn, hc, hr]

theorem splitOn_append (sep : Nat) (a b : Str) (h : ∀ c ∈ a, c ≠ sep) :
    splitOn sep (a ++ sep :: b) = a :: splitOn sep b := by
  induction a with
  | nil => simp [splitOn]
  | cons c r ih =>
    have hc : c ≠ sep := h c List.mem_cons_self
    have hr := ih (fun c hc => h c (List.mem_cons_of_mem _ hc))
    simp [splitOn, hc, hr]

theorem splitOn_join (sep : Nat) (ws : List Str) (hne : ws ≠ [])
    (h : ∀ w ∈ ws, ∀ c ∈ w, c ≠ sep) : splitOn sep (join [sep] ws) = ws := by
  induction ws with
  | nil => exact absurd rfl hne
  | cons w ws ih =>
    cases ws with
    | nil => simp only [join]; exact splitOn_nosep _ _ (h w List.mem_cons_self)
    | cons w' ws' =>
      simp only [join]
      rw [List.append_assoc, List.singleton_append, splitOn_append _ _ _ (h w List.mem_cons_self)]
      rw [ih (by simp) (fun x hx => h x (List.mem_cons_of_mem _ hx))]

theorem padZeros_length (k : Nat) (s : Str) (h : s.length ≤ k) : (padZeros k s).length = k := by
  simp [padZeros]; omega

theorem padZeros_digits (k : Nat) (s : Str) (h : AllDigits s) : AllDigits (padZeros k s) := by
  intro c hc
  simp only [padZeros, List.mem_append, List.mem_replicate] at hc
  rcases hc with ⟨_, rfl⟩ | hc
  · decide
  · exact h c hc

theorem padZeros_val (k : Nat) (s : Str) : val (padZeros k s) = val s := by
  simp [padZeros, val_append, val_replicate_zero]

theorem showFixed_chars (k n : Nat) : ∀ c ∈ showFixed k n, isDigit c = true ∨ c = cDot := by
  intro c hc
  simp only [showFixed, List.mem_append, List.mem_singleton] at hc
  rcases hc with (hc | hc) | hc
  · exact Or.inl (showNat_digits _ c hc)
  · exact Or.inr hc
  · exact Or.inl (padZeros_digits _ _ (showNat_digits _) c hc)

/-- `parseFixed_showFixed` needs `0 < k`: `parseFixed 0 (showFixed 0 5) = none` -/
theorem parseFixed_showFixed_pos (k n : Nat) (hk : 0 < k) : parseFixed k (showFixed k n) = some n := by
  have hdig := padZeros_digits k _ (showNat_digits (n % 10 ^ k))
  have hlen := padZeros_length k _ (showNat_length _ k hk (Nat.mod_lt n (Nat.pow_pos (by decide))))
  have hne : padZeros k (showNat (n % 10 ^ k)) ≠ [] := by
    intro h; rw [h] at hlen; exact absurd hlen.symm (Nat.ne_of_gt hk)
  have hsplit : splitOn cDot (showFixed k n) = [showNat (n / 10 ^ k), padZeros k (showNat (n % 10 ^ k))] := by
    rw [showFixed, List.append_assoc, List.singleton_append,
      splitOn_append _ _ _ (fun c hc => (digit_ne (showNat_digits _ c hc)).1),
      splitOn_nosep _ _ (fun c hc => (digit_ne (hdig c hc)).1)]
  rw [parseFixed, hsplit]
  simp only [hlen, if_true, parseNat_showNat, parseNat_of_digits _ hne hdig, padZeros_val, showNat_val]
  rw [Nat.mul_comm, Nat.div_add_mod]

end Py
